import GfsSpec.Closed
import GfsSpec.Denote
import GfsSpec.Enum
import GfsSpec.Grammar
import GfsSpec.SeqSpec
import GfsSpec.WF
