/-
  GfsModel.Expected — the structural facts the model was written from.  `GfsGen/Facts.lean`
  is regenerated from /repo's sources on every check by tools/gofacts; property theorems
  state `Gfs.Gen.<facts> = Gfs.expected<Facts>` (by `rfl`), so a change of the code's loop
  structure, shared writes, regular expressions, pad tables or synchronisation skeletons
  breaks a proof obligation.
-/
namespace Gfs

/-- C14: closed-form accessors have no loop; container accessors loop over the blocks only;
    AppendUnique returns early on an empty block list before its candidate loop -/
def expectedLoopFacts : List (String × List String) := [
  ("ranges.InclusiveRange.Contains", []),
  ("ranges.InclusiveRange.End", []),
  ("ranges.InclusiveRange.Index", []),
  ("ranges.InclusiveRange.Len", []),
  ("ranges.InclusiveRange.Max", []),
  ("ranges.InclusiveRange.Min", []),
  ("ranges.InclusiveRange.Start", []),
  ("ranges.InclusiveRange.Step", []),
  ("ranges.InclusiveRange.String", []),
  ("ranges.InclusiveRange.Value", []),
  ("ranges.InclusiveRange.closestInRange", []),
  ("ranges.InclusiveRanges.Append", []),
  ("ranges.InclusiveRanges.AppendUnique", ["if-empty-return", "for:!wrapped && pred()"]),
  ("ranges.InclusiveRanges.Contains", ["range:l.blocks"]),
  ("ranges.InclusiveRanges.End", []),
  ("ranges.InclusiveRanges.Index", ["range:l.blocks"]),
  ("ranges.InclusiveRanges.Len", ["range:l.blocks"]),
  ("ranges.InclusiveRanges.Max", ["range:l.blocks"]),
  ("ranges.InclusiveRanges.Min", ["range:l.blocks"]),
  ("ranges.InclusiveRanges.Start", ["range:l.blocks"]),
  ("ranges.InclusiveRanges.String", ["range:l.blocks"]),
  ("ranges.InclusiveRanges.Value", ["range:l.blocks"]),
  ("fileseq.FileSequence.End", []),
  ("fileseq.FileSequence.Frame", []),
  ("fileseq.FileSequence.Index", []),
  ("fileseq.FileSequence.Len", []),
  ("fileseq.FileSequence.Start", []),
  ("fileseq.FileSequence.String", []),
  ("fileseq.FileSequence.frameInt", []),
  ("fileseq.FrameSet.End", []),
  ("fileseq.FrameSet.Frame", []),
  ("fileseq.FrameSet.FrameRange", []),
  ("fileseq.FrameSet.HasFrame", []),
  ("fileseq.FrameSet.Index", []),
  ("fileseq.FrameSet.Len", []),
  ("fileseq.FrameSet.Start", []),
  ("fileseq.FrameSet.String", []),
  ("fileseq.zfillInt", []),
  ("fileseq.zfillString", [])
]

/-- C16: no function outside `init` writes to package-level state -/
def expectedSharedWrites : List (String × List String) := []

/-- the regular expressions the recognisers of GfsModel.Rx / FrameSet were written from -/
def expectedRegexFacts : List (String × List String) := [
  ("houdiniPattern", ["^\\$F(\\d*)$"]),
  ("optionalFramePattern", ["^(?P<name>.*?)(?P<frame>-?\\d+)?(?P<ext>(?:\\.\\w*[a-zA-Z]\\w?)*(?:\\.[^.]+)?)$"]),
  ("printfPattern", ["^%(\\d*)d$"]),
  ("rangePatterns", ["^(-?\\d+)-(-?\\d+)$", "^(-?\\d+)$", "^(-?\\d+)-(-?\\d+)([:xy])(-?\\d+)$"]),
  ("singleFramePattern", ["^(?P<name>.*?)(?P<frame>-?\\d+)(?P<ext>(?:\\.\\w*[a-zA-Z]\\w?)*(?:\\.[^.]+)?)$"]),
  ("splitPattern", ["^(?P<name>.*?)(?P<range>[\\d-][:xy\\d,-]*)?(?P<pad>[#@]+|%\\d*d|\\$F\\d*|<UDIM>|%\\(UDIM\\)d)(?P<ext>.*)?$"]),
  ("udimPattern", ["^<UDIM>|%\\(UDIM\\)d$"])
]

def expectedPadFacts : List (String × List String) := [
  ("newMultiHashPad", ["charToSize=\"#\": 4,\"@\": 1", "defaultChar=\"@\""]),
  ("newSingleHashPad", ["charToSize=\"#\": 1,\"@\": 1", "defaultChar=\"#\""])
]

/-- C20: the statement skeleton of the two (textually duplicated) handle maps, as modelled by
    GfsModel.Handles: one model action per entry -/
def expectedHandleSkeleton : List (String × List String) := [
  ("Xor64Source.Seed", []),
  ("fileSeqMap.Add", ["call:m.lock.Lock", "call:m.rand.Uint64", "insert:m.m", "call:m.lock.Unlock"]),
  ("fileSeqMap.Decref", ["call:m.lock.RLock", "lookup:m.m", "call:m.lock.RUnlock", "call:atomic.AddUint32", "call:m.lock.Lock", "call:atomic.LoadUint32", "delete:m.m", "call:m.lock.Unlock"]),
  ("fileSeqMap.Get", ["call:m.lock.RLock", "lookup:m.m", "call:m.lock.RUnlock"]),
  ("fileSeqMap.Incref", ["call:m.lock.RLock", "lookup:m.m", "call:m.lock.RUnlock", "call:atomic.AddUint32"]),
  ("fileSeqMap.Len", ["call:m.lock.RLock", "len:m.m", "call:m.lock.RUnlock"]),
  ("frameSetMap.Add", ["call:m.lock.Lock", "call:m.rand.Uint64", "insert:m.m", "call:m.lock.Unlock"]),
  ("frameSetMap.Decref", ["call:m.lock.RLock", "lookup:m.m", "call:m.lock.RUnlock", "call:atomic.AddUint32", "call:m.lock.Lock", "call:atomic.LoadUint32", "delete:m.m", "call:m.lock.Unlock"]),
  ("frameSetMap.Get", ["call:m.lock.RLock", "lookup:m.m", "call:m.lock.RUnlock"]),
  ("frameSetMap.Incref", ["call:m.lock.RLock", "lookup:m.m", "call:m.lock.RUnlock", "call:atomic.AddUint32"]),
  ("frameSetMap.Len", ["call:m.lock.RLock", "len:m.m", "call:m.lock.RUnlock"]),
  ("xor64", [])
]

/-- C17: the channel / goroutine skeleton of seqls' work manager -/
def expectedSeqlsSkeleton : List (String × List String) := [
  ("NewWorkManager", ["makechan:chan string:unbuffered", "makechan:chan *fileseq.FileSequence:unbuffered", "makechan:chan fileseq.FileSequences:unbuffered", "return"]),
  ("main", []),
  ("workManager.Process", ["return", "for:i < numWorkers", "call:wg.Add", "go:func() { numErrs := w.processSources() atomic.AddUint64(&errCount, numErrs) wg.Done() }", "call:atomic.AddUint64", "call:wg.Done", "go:func() { var numErrs uint64 if Options.Recurse { numErrs = w.loadRecursive(rootPaths) } else { numErrs = w.load(rootPaths) } atomic.AddUint64(&errCount, numErrs) w.closeInputs() }", "call:atomic.AddUint64", "go:func() { wg.Wait() w.closeOutput() }", "call:wg.Wait", "return", "return"]),
  ("workManager.closeInputs", ["close:w.inDirs", "close:w.inSeqs"]),
  ("workManager.closeOutput", ["close:w.outSeqs"]),
  ("workManager.isInputDone", ["return", "return", "return"]),
  ("workManager.load", ["range:seqs", "send:w.inSeqs", "range:dirs", "send:w.inDirs", "return"]),
  ("workManager.loadRecursive", ["return", "call:mu.RLock", "call:mu.RUnlock", "call:mu.Lock", "call:mu.Unlock", "return", "return", "send:w.inDirs", "return", "range:seqs", "send:w.inSeqs", "range:dirs", "call:atomic.AddUint64", "return"]),
  ("workManager.processResults", ["range:w.outSeqs", "range:seqs"]),
  ("workManager.processSources", ["return", "for:!isDone()", "select", "recv:inDirs", "nil:inDirs", "continue", "continue", "send:outSeqs", "recv:inSeqs", "nil:inSeqs", "continue", "continue", "continue", "send:outSeqs", "return"])
]

/-- C18: one goroutine per pattern, a channel, n receives -/
def expectedSeqinfoSkeleton : List (String × List String) := [
  ("main", ["for:scanner.Scan()", "continue", "makechan:chan *Result:buffer=n", "range:patterns", "go:func(pat string) { out <- parse(pat, &Options) }", "send:out", "for:i < n", "recv:out"]),
  ("parse", ["return", "return", "return", "return", "return", "return", "return", "return"])
]

end Gfs
