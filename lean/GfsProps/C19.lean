/-
  C19 — the C++ port computes the same results as the Go library.

  How the property is decided.  The port is modelled by the SAME Lean definitions as the Go
  code wherever it is a transliteration (Range / Ranges arithmetic, handleMatch,
  framesToFrameRange, the regex recognisers, the pad mapping, FileSequence::init); there "same
  result" is reflexivity and the content of
  the check is that BOTH implementations correspond to that one definition (three-way run:
  C++ driver = model, Go harness = model, C++ = Go).  Where the port differs structurally it has
  its own definition in GfsModel.Cpp, and the theorems below prove that the difference is
  invisible on the property's domain:

    * splitting with std::getline, std::stol, FrameSet::isValid()       → C19_parse
    * zfill(Frame,int) through setw / setfill / internal                 → C19_zfill
    * padFrameRange re-printing the parsed numbers                       → C19_padded_ranges
    * FileSequence::length() being at least 1                            → C19_length
    * the two-pass directory scan (buckets of numbers with a running minimum width, no width
      regrouping, re-parse of the rebuilt string, single files by the constructor)
                                                                         → C19_scan, C19_scan_bucket, C19_scan_frameless
    * the pattern lookup (template scan in the default style, hand-written frame test)
                                                                         → C19_find, C19_find_rejects

  Not proved (tie only): std::regex (ECMAScript) against RE2 for the five patterns; readdir /
  stat and the iteration order of `std::map`.
-/
import GfsProofs.CppScan
import GfsProofs.PadRangeLemmas
import GfsGen.Facts
import GfsModel.ExpectedSrc

namespace Gfs.Props.C19
open Gfs Gfs.Spec Gfs.Proofs

/-- A range text that the Go library accepts and that denotes at least one frame is accepted
    by the port, and the port holds exactly the same block list.  Every answer derived from the
    blocks — validity, frame list, length, frame at an index, index of a frame, membership,
    start, end, normalised and inverted ranges — is therefore the same, for every query. -/
theorem C19_parse (s : Bytes) (fs : FrameSet) (h : FrameSet.parse s = .ok fs) (hlen : fs.len ≠ 0) :
    Cpp.parse s = .ok fs := by
  obtain ⟨ms, bl, hm, hb, rfl, _⟩ := cpp_matches_eq s fs h
  rw [Cpp.parse, hm]
  simp only [hb]
  exact if_neg hlen

/-- To a range text that the Go library's parser accepts, `isFrameRange` of the port and
    `IsFrameRange` of the Go library both say yes (the Go side is C15_isFrameRange). -/
theorem C19_isFrameRange (s : Bytes) (fs : FrameSet) (h : FrameSet.parse s = .ok fs) :
    Cpp.isFrameRange s = .ok true ∧ isFrameRange s = true := by
  obtain ⟨ms, _, hm, _, _, hst⟩ := cpp_matches_eq s fs h
  refine ⟨?_, (isFrameRange_iff s).2 ⟨fs, h⟩⟩
  rw [Cpp.isFrameRange, hm]
  simp only [hst]

/-- `zfill(Frame, int)` of the port prints what `zfillInt` / `%0Nd` of the Go library prints,
    for every value and every width (so frame paths agree once the components agree). -/
theorem C19_zfill (v z : Int) : Cpp.zfill v z = zfillInt v z :=
  cpp_zfill_eq v z

/-- Padded ranges.  For a text of a non-empty component list whose numbers fit a long, the
    port's `padFrameRange` and the Go library's `PadFrameRange` both return a text of the same
    component list (same numbers, modifiers and steps, component by component, in order):
    they differ at most in redundant leading zeros. -/
theorem C19_padded_ranges (cs : List Comp) (parts : List Bytes) (w : Int)
    (h : Forall2 CompText cs parts) (hne : cs ≠ []) (hf : ∀ c ∈ cs, c.fits) :
    (∃ pc, Forall2 CompText cs pc ∧ Cpp.padFrameRange (joinWith ',' parts) w = joinWith ',' pc) ∧
    (∃ pg, Forall2 CompText cs pg ∧ padFrameRange (joinWith ',' parts) w = joinWith ',' pg) := by
  obtain ⟨hpne, hnc, _⟩ := forall2_compText_parts h
  have hsplit : splitOn ',' (joinWith ',' parts) = parts := splitOn_joinWith parts (hpne hne) hnc
  have hget : Cpp.splitGetline ',' (joinWith ',' parts) = parts := by
    rw [splitGetline_eq, hsplit]
    rw [hsplit]
    exact forall2_forall_right h fun _ _ => compText_ne_nil
  by_cases hw : w < 2
  · exact ⟨⟨parts, h, by simp [Cpp.padFrameRange, hw]⟩, ⟨parts, h, by simp [padFrameRange, hw]⟩⟩
  · refine ⟨⟨parts.map (Cpp.padPart w), ?_, by simp [Cpp.padFrameRange, hw, hget]⟩,
            ⟨parts.map (padPart w), ?_, by simp [padFrameRange, hw, hsplit]⟩⟩
    · exact forall2_map_right _ h fun c p hc hcp =>
        cpp_padPart_eq w p ▸ compText_mapMatch _ hcp fun m hm => matchOf_cppPadMatch w c m hm (hf c hc)
    · exact forall2_map_right _ h fun c p _ hcp =>
        padPart_eq w p ▸ compText_mapMatch _ hcp (matchOf_padMatch w c)

/-- The port's `zfill(Frame, int)`, with which its `padFrameRange` prints every number, returns at
    least `w` characters. -/
theorem C19_padded_width (v w : Int) (h : 2 ≤ w) : w ≤ (Cpp.zfill v w).length := by
  rw [cpp_zfill_eq]; exact zfillInt_length v w

/-- `FileSequence::length()` (at least 1) equals `Len()` for every sequence whose frame range
    denotes at least one frame, and for every sequence without a frame range. -/
theorem C19_length (s : Seq) (h : ∀ fs, s.frameSet = some fs → 1 ≤ fs.len) : Cpp.seqLen s = s.len := by
  unfold Cpp.seqLen Seq.len
  cases hfs : s.frameSet with
  | none => rfl
  | some fs =>
    have := h fs hfs
    simp only
    split <;> omega

/-- Directory scan, one bucket of the property's domain (two or more frames, one digit width):
    the port builds `<dir><basename><range><pad><ext>`, parses it and forces the components it
    found while scanning (fix 2e259d6); the Go library builds the sequence from the components.
    For a directory prefix ending in '/', names without a newline and a range text that parses,
    the two are the same sequence — whatever the basename contains (pad characters, range-like
    text). -/
theorem C19_scan_bucket (st : PadStyle) (b : SeqInfo) (w : Nat) (fs : FrameSet)
    (hlen : 2 ≤ b.frames.length) (hw : ∀ f ∈ b.frames, f.frame.length = w) (hw1 : 1 ≤ w)
    (hdir : b.dir.isEmpty = true ∨ isSuffixOf ['/'] b.dir = true)
    (hext : b.ext = [] ∨ isPrefixOf ['.'] b.ext = true)
    (hnl : (b.dir ++ b.base ++ framesToFrameRange (b.frames.map (·.num)) true 0 ++
            padChars st w ++ b.ext).contains '\n' = false)
    (hp : FrameSet.parse (framesToFrameRange (b.frames.map (·.num)) true 0) = .ok fs) :
    ∃ s, Cpp.bucketSeq st b.dir b.base (framesToFrameRange (b.frames.map (·.num)) true 0)
            (padChars st w) b.ext = .ok s ∧ bucketSeqs st b = [s] := by
  exact ⟨_, cpp_bucketSeq_eq st b.dir b.base _ (padChars st w) b.ext fs hdir hext
      ⟨padChars_ne_nil st w, padChars_chars st w⟩ hnl hp,
    Order.bucketSeqs_uniform st b w hlen hw⟩

/-- Directory scan, a frame-less file: the port constructs a FileSequence from the full path and
    then forces the directory (fix ae21c36), basename and extension it found while scanning; when
    the constructor accepts the path (it does whenever the path holds no pad character) the entry
    is the one the Go library builds from the components, whatever the directory's own name
    contains. -/
theorem C19_scan_frameless (st : PadStyle) (path dir base ext : Bytes) (s0 : Seq)
    (hdir : dir.isEmpty = true ∨ isSuffixOf ['/'] dir = true)
    (hext : ext = [] ∨ isPrefixOf ['.'] ext = true)
    (hp : Seq.parse st path = .ok s0) :
    Cpp.singleSeq st path dir base [] ext = .ok (rebuild st dir base [] [] ext) :=
  cpp_singleSeq_frameless st path dir base ext s0 hdir hext hp

/-- Directory scan, whole. `Cpp.scan` is the port's two-pass `findSequencesOnDisk` (buckets keyed
    by (basename, ext) with a running minimum width, single files built by the constructor and
    then forced), `findSequencesOnDisk` the Go one. For a clean directory argument (the port
    appends a separator, Go cleans the path first), no dangling link, buckets of two or more
    frames of one digit width, and every other kept name a frame-less file the constructor
    accepts: both report the same sequences and the same single files — the port lists the single
    files first, Go last, and neither promises an order. -/
theorem C19_scan (o : ListOpts) (path : Bytes) (entries : List Entry)
    (hpath : Cpp.rootOf path = dirPrefix path)
    (hroot : isSuffixOf ['/'] (dirPrefix path) = true)
    (hnd : ∀ e ∈ entries, e.kind ≠ .dangling)
    (hsingle : ∀ e ∈ entries, CppScan.kept e = true →
        (o.hidden = true ∨ isPrefixOf ['.'] e.name = false) → CppScan.SingleOk o (dirPrefix path) e.name)
    (hdom : CppScan.BucketsDom (scanItems o none
        ((entries.filter fun e => e.kind = .file ∨ e.kind = .linkFile).map
          fun e => ⟨dirPrefix path, e.name⟩) [] [])) :
    ∃ seqs files, findSequencesOnDisk (some entries) path o = .ok (seqs ++ files) ∧
                  Cpp.scan (some entries) path o = .ok (files ++ seqs) := by
  obtain ⟨gs, files, hgo, hcpp, hinv, hfiles⟩ :=
    CppScan.scan_sim o (dirPrefix path) (Or.inr hroot) entries [] [] hnd hsingle (fun _ h => by cases h)
  have hd : ∀ g ∈ gs, CppScan.BucketDom g := by rw [hgo] at hdom; exact hdom
  obtain ⟨h1, h2⟩ := CppScan.buckets_out o.style o.style (dirPrefix path) (Or.inr hroot) gs hinv hd
  refine ⟨gs.map (CppScan.seqOf o.style), files, ?_, ?_⟩
  · rw [findSequencesOnDisk, scanDir_ok entries path o none hnd, findInItems, hgo]
    simp only [bind, Except.bind, pure, Except.pure, h2]
    cases hs : o.single
    · rw [hfiles hs]; rfl
    · rfl
  · rw [List.map_nil] at hcpp
    rw [Cpp.scan, hpath]
    simp only [hcpp, h1]

/-- Pattern lookup. `Cpp.find` is the port's `findSequenceOnDisk`: the pattern is parsed in the
    caller's style, its directory is scanned with the pattern as a template — with the default
    options and the DEFAULT pad style —, the middle of a candidate name is tested by hand (an
    optional '-', digits, no ERANGE), the first result with the pattern's basename and extension
    is switched to the caller's style. The Go lookup scans in the caller's style and tests the
    middle with its frame pattern and `Atoi`; it is taken without the options `StrictPadding` and
    `HiddenFiles` (the two `false`, in that order), neither of which the port has. For a pattern the
    constructor accepts, a readable directory without dangling links and candidates of one digit
    width (two or more): the same answer. -/
theorem C19_find (lookup : Bytes → DirSpec) (pat : Bytes) (st : PadStyle) (fs : Seq) (entries : List Entry)
    (hp : Seq.parse st pat = .ok fs) (hl : lookup (openDir fs.dir) = some entries)
    (hdir : fs.dir.isEmpty = true ∨ isSuffixOf ['/'] fs.dir = true)
    (hnd : ∀ e ∈ entries, e.kind ≠ .dangling)
    (hdom : CppScan.BucketsDom (scanItems ⟨false, false, st⟩ (some fs)
        ((entries.filter fun e => e.kind = .file ∨ e.kind = .linkFile).map
          fun e => ⟨dirPrefix (openDir fs.dir), e.name⟩) [] [])) :
    Cpp.find lookup pat st = findSequenceOnDisk lookup pat st false false := by
  obtain ⟨gs, hgo, hcpp, hinv⟩ := CppScan.scanT_sim st .hash4 false fs (dirPrefix (openDir fs.dir))
    entries [] [] hnd (fun _ h => by cases h)
  rw [hgo] at hdom
  rw [List.map_nil] at hcpp
  obtain ⟨h1, h2⟩ := CppScan.buckets_out st .hash4 fs.dir hdir gs hinv hdom
  rw [Cpp.find, findSequenceOnDisk]
  simp only [hp, hl, hcpp, h1, scanDir_ok entries _ _ _ hnd, findInItems, hgo, bind, Except.bind, pure,
    Except.pure, Bool.false_eq_true, if_false, List.append_nil, h2,
    CppScan.pick_eq st .hash4 fs.base fs.ext _ hdom]
  -- without StrictPadding the Go lookup's last filter keeps everything
  refine congrArg Except.ok (congrArg List.head? (List.filter_eq_self.mpr fun s _ => ?_).symm)
  simp

/-- … and when the constructor rejects the pattern both answer "no match", when the directory
    cannot be read both fail -/
theorem C19_find_rejects (lookup : Bytes → DirSpec) (pat : Bytes) (st : PadStyle) :
    (∀ e, Seq.parse st pat = .error e →
      Cpp.find lookup pat st = .ok none ∧ findSequenceOnDisk lookup pat st false false = .ok none) ∧
    (∀ fs, Seq.parse st pat = .ok fs → lookup (openDir fs.dir) = none →
      Cpp.find lookup pat st = .error .io ∧ findSequenceOnDisk lookup pat st false false = .error .io) := by
  refine ⟨?_, ?_⟩
  · intro e he
    unfold Cpp.find findSequenceOnDisk
    simp [he]
  · intro fs hfs hl
    unfold Cpp.find findSequenceOnDisk scanDir
    simp [hfs, hl]

/-- the hypotheses of `C19_find`, as one decidable check -/
def findDomOk (st : PadStyle) (pat : Bytes) (entries : List Entry) : Bool :=
  match Seq.parse st pat with
  | .error _ => false
  | .ok fs =>
    decide (fs.dir.isEmpty = true ∨ isSuffixOf ['/'] fs.dir = true) &&
    decide (∀ e ∈ entries, e.kind ≠ .dangling) &&
    decide (CppScan.BucketsDom (scanItems ⟨false, false, st⟩ (some fs)
      ((entries.filter fun e => e.kind = .file ∨ e.kind = .linkFile).map
        fun e => ⟨dirPrefix (openDir fs.dir), e.name⟩) [] []))

/-- they are satisfiable, and there the port (scanning in the default style) and the Go library
    (scanning in the caller's hash1 style) give the same, non-trivial answer -/
example :
    findDomOk .hash1 "/T/d/a.#.exr".toList
      [⟨"a.0001.exr".toList, .file⟩, ⟨"sub".toList, .dir⟩, ⟨"a.exr".toList, .file⟩,
       ⟨"a.0003.exr".toList, .linkFile⟩, ⟨"a.x.exr".toList, .file⟩, ⟨"a.0002.exr".toList, .file⟩] = true ∧
    (match Cpp.find (fun _ => some
      [⟨"a.0001.exr".toList, .file⟩, ⟨"sub".toList, .dir⟩, ⟨"a.exr".toList, .file⟩,
       ⟨"a.0003.exr".toList, .linkFile⟩, ⟨"a.x.exr".toList, .file⟩, ⟨"a.0002.exr".toList, .file⟩])
        "/T/d/a.#.exr".toList .hash1 with
      | .ok (some s) => s.str | _ => []) = "/T/d/a.1-3####.exr".toList := by
  decide +kernel

def exOpts : ListOpts := ⟨true, false, .hash4⟩
def exDir : List Entry := [⟨"a.0001.exr".toList, .file⟩, ⟨"sub".toList, .dir⟩,
  ⟨"notes.txt".toList, .file⟩, ⟨".hid.7.x".toList, .file⟩, ⟨"a.0003.exr".toList, .linkFile⟩,
  ⟨"a.0002.exr".toList, .file⟩]

/-- the hypotheses of `C19_scan` are satisfiable: a directory with a three-frame sequence, a
    frame-less file, a hidden file and a sub-directory, single files wanted -/
example :
    Cpp.rootOf "/T/d".toList = dirPrefix "/T/d".toList ∧
    isSuffixOf ['/'] (dirPrefix "/T/d".toList) = true ∧
    (∀ e ∈ exDir, e.kind ≠ .dangling) ∧
    (∀ e ∈ exDir, CppScan.kept e = true →
        (exOpts.hidden = true ∨ isPrefixOf ['.'] e.name = false) →
        CppScan.SingleOk exOpts (dirPrefix "/T/d".toList) e.name) ∧
    CppScan.BucketsDom (scanItems exOpts none
        ((exDir.filter fun e => e.kind = .file ∨ e.kind = .linkFile).map
          fun e => ⟨dirPrefix "/T/d".toList, e.name⟩) [] []) := by
  decide +kernel

/-- … and on it the two scans give what the theorem says: the same sequence and the same single
    file, in the other order -/
example :
    (match Cpp.scan (some exDir) "/T/d".toList exOpts with
      | .ok l => l.map (·.str) | .error _ => []) =
      ["/T/d/notes.txt".toList, "/T/d/a.1-3#.exr".toList] ∧
    (match findSequencesOnDisk (some exDir) "/T/d".toList exOpts with
      | .ok l => l.map (·.str) | .error _ => []) =
      ["/T/d/a.1-3#.exr".toList, "/T/d/notes.txt".toList] := by
  decide +kernel

/-- outside the domain the two really differ: a range that parses but denotes no frame is a
    valid empty frame set in Go and an invalid FrameSet in the port (why the property excludes
    it), and a trailing comma is rejected by Go only. -/
example : (match Cpp.parse "5-5y1".toList with | .invalid => true | _ => false) = true ∧
          (match FrameSet.parse "5-5y1".toList with | .ok fs => fs.len == 0 | .error _ => false) = true := by
  decide

example : (match Cpp.parse "1,".toList with | .ok fs => fs.len == 1 | _ => false) = true ∧
          (match FrameSet.parse "1,".toList with | .ok _ => false | .error _ => true) = true := by
  decide

/-- the port's parser on a text of the domain: blanks and a pad character are stripped, the
    range descends, the frame 4 comes twice -/
example : (match Cpp.parse " 10-1x3, 4#".toList with | .ok fs => fs.frames | _ => []) = [10, 7, 4, 1] := by
  decide +kernel

/-- the hypotheses of `C19_padded_ranges` are satisfiable: "007-10x02" is a text of 7-10x2 -/
example : Forall2 CompText [Comp.stepped 7 10 'x' 2] ["007-10x02".toList] ∧
    ([Comp.stepped 7 10 'x' 2] ≠ []) ∧ (∀ c ∈ [Comp.stepped 7 10 'x' 2], c.fits) := by
  refine ⟨.cons ⟨.complex "007".toList "10".toList 'x' "02".toList, ?_, rfl⟩ .nil, by simp, ?_⟩
  · exact .stepped ⟨false, "007".toList, by decide, by decide, rfl, by decide⟩
      ⟨false, "10".toList, by decide, by decide, rfl, by decide⟩
      ⟨false, "02".toList, by decide, by decide, rfl, by decide⟩ (Or.inl rfl)
  · intro c hc
    simp only [List.mem_singleton] at hc
    subst hc
    simp [Comp.fits, Fits, minInt64, maxInt64]

/-- the declarations of /repo this property's model and specification were written from are,
    on this run, the ones the model was last aligned with (digest of their comment- and
    layout-insensitive fingerprints, re-extracted by tools/gofacts) -/
theorem C19_source : Gfs.Gen.sourceDigestC19 = Gfs.expectedSourceDigestC19 := rfl

end Gfs.Props.C19
