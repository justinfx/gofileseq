/-
  C14 — huge ranges are answered arithmetically, never by enumeration.

  What is proved: (1) the closed forms are correct at ANY magnitude (C13/C02 over ℤ; here the
  accessors are shown equal to the arithmetic description `Spec.Closed`, which
  `GfsProofs.ClosedLemmas` — `closed_len` … `closed_index` — shows equal to the enumerated
  specification);
  (2) on the property's domain no intermediate value of the accessors leaves int64.
  What is NOT provable here and is measured by the `huge` operation instead (partial): time
  and allocation of the Go code; they are bounded per op (`cheap`), and the loop structure
  of the closed-form functions is re-extracted from the source on every run
  (GfsGen.Facts, theorem `C14_loop_structure`).
-/
import GfsProofs.ClosedLemmas
import GfsGen.Facts
import GfsModel.Expected
import GfsModel.ExpectedSrc

namespace Gfs.Props.C14
open Gfs Gfs.Spec Gfs.Proofs

/-- a single plain or stepped range, built the way the parser builds it (first block):
    its accessors are the closed forms, for all integers -/
theorem C14_closed_forms (a b n : Int) (hn : 0 < n) :
    let r := mkRng a b (if a ≤ b then n else -n)
    r.len = cLen a b n ∧ r.fin = cLast a b n ∧
    (∀ i, r.value i = (match cValue a b n i with | some v => .ok v | none => .error .index)) ∧
    (∀ v, r.contains v = cHas a b n v) ∧
    (∀ v, r.index v = cIndex a b n v) := by
  intro r
  obtain ⟨hna, hw⟩ := RngAux.cDir_mul a b hn
  have h := rng_closed_forms _ hw
  simp only [hna] at h
  have hr : r = ⟨a, b, cDir a b * n⟩ := mkRng_dir a b n hn
  rw [hr]
  exact h

/-- on the domain of the property (|A|,|B| ≤ 10^13, 1 ≤ |N| ≤ 10^6, index in [-2,len+2],
    value within 2·10^6 of the range) no integer sub-expression evaluated by End, Len, Value,
    Index, Contains leaves int64 -/
theorem C14_no_overflow (a b n idx v : Int)
    (ha : -10000000000000 ≤ a ∧ a ≤ 10000000000000)
    (hb : -10000000000000 ≤ b ∧ b ≤ 10000000000000)
    (hn : 1 ≤ n ∧ n ≤ 1000000)
    (hidx : -2 ≤ idx ∧ idx ≤ (mkRng a b (if a ≤ b then n else -n)).len + 2)
    (hv : -10000002000000 ≤ v ∧ v ≤ 10000002000000) :
    ∀ x ∈ intermediates (mkRng a b (if a ≤ b then n else -n)) idx v, minInt64 ≤ x ∧ x ≤ maxInt64 := by
  obtain ⟨hna, hw⟩ := RngAux.cDir_mul a b hn.1
  rw [mkRng_dir a b n hn.1] at hidx ⊢
  rw [RngAux.len_eq _ hw] at hidx
  intro x hx
  have := intermediates_natAbs _ hw 10000000000000 1000000 idx v (ClosedAux.natAbs_le ha)
    (ClosedAux.natAbs_le hb) (Int.ofNat_le.mp (Int.le_trans (Int.le_of_eq hna) hn.2)) (by omega)
    (ClosedAux.natAbs_le hv) x hx
  unfold minInt64 maxInt64
  omega

/-- the loop structure of the closed-form functions, re-extracted from /repo on this run,
    is the one the model was written from: no loop in the InclusiveRange accessors, loops over
    `l.blocks` only in the InclusiveRanges accessors, and AppendUnique tests for an empty
    block list before its candidate loop -/
theorem C14_loop_structure : Gfs.Gen.loopFacts = Gfs.expectedLoopFacts := rfl

/-- the declarations of /repo this property's model and specification were written from are,
    on this run, the ones the model was last aligned with (digest of their comment- and
    layout-insensitive fingerprints, re-extracted by tools/gofacts) -/
theorem C14_source : Gfs.Gen.sourceDigestC14 = Gfs.expectedSourceDigestC14 := rfl

end Gfs.Props.C14
