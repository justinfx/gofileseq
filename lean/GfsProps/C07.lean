/-
  C07 — FindSequenceOnDisk returns exactly the pattern's on-disk frames, never panics.
  (OS side is a parameter of the model: partial, see C06.)
-/
import GfsProofs.FindComplete
import GfsGen.Facts
import GfsModel.ExpectedSrc

namespace Gfs.Props.C07
open Gfs Gfs.Spec Gfs.Proofs

/-- an unparsable pattern is a nil result -/
theorem C07_bad_pattern (lookup : Bytes → DirSpec) (pat : Bytes) (st : PadStyle) (strict hidden : Bool)
    (h : ∃ e, Seq.parse st pat = .error e) :
    findSequenceOnDisk lookup pat st strict hidden = .ok none := by
  obtain ⟨e, he⟩ := h
  simp [findSequenceOnDisk, he]

/-- a missing (unreadable) directory is an error -/
theorem C07_missing_dir (lookup : Bytes → DirSpec) (pat : Bytes) (st : PadStyle) (strict hidden : Bool)
    (fs : Seq) (h : Seq.parse st pat = .ok fs) (hd : lookup (openDir fs.dir) = none) :
    ∃ e, findSequenceOnDisk lookup pat st strict hidden = .error e := by
  refine ⟨.io, ?_⟩
  simp [findSequenceOnDisk, h, hd, scanDir]

/-- a result has the pattern's basename and extension, the requested pad style, and with
    StrictPadding (pattern with padding) exactly the pattern's pad width -/
theorem C07_result (lookup : Bytes → DirSpec) (pat : Bytes) (st : PadStyle) (strict hidden : Bool)
    (fs s : Seq) (h : Seq.parse st pat = .ok fs)
    (hr : findSequenceOnDisk lookup pat st strict hidden = .ok (some s)) :
    s.base = fs.base ∧ s.ext = fs.ext ∧ s.style = st ∧
    (strict = true → fs.pad ≠ [] → s.zfill = fs.zfill) := by
  simp only [findSequenceOnDisk, h] at hr
  split at hr
  · cases hr
  · rename_i seqs _
    injection hr with hr
    obtain ⟨hm, hstrict⟩ := List.mem_filter.1 (List.mem_of_head? hr)
    obtain ⟨s0, hs0, rfl⟩ := List.mem_map.1 hm
    have hbe := of_decide_eq_true (List.mem_filter.1 hs0).2
    refine ⟨hbe.1, hbe.2, rfl, fun hs hp => ?_⟩
    subst hs
    simpa [List.isEmpty_eq_false_iff.2 hp] using hstrict

/-- the template scan produces no single-file entries, and every bucket it makes has the
    pattern's own key (that it buckets exactly the names basename + frame number + extension is
    `candToks`, see `C07_complete`) -/
theorem C07_glob_only_frames (o : ListOpts) (t : Seq) (items : List FileItem)
    (bs' : List SeqInfo) (files' : List Seq)
    (h : scanItems o (some t) items [] [] = .ok (bs', files')) :
    files' = [] ∧ ∀ b ∈ bs', b.dir = t.dir ∧ b.base = t.base ∧ b.ext = t.ext := by
  rw [FindComplete.scanItems_tmpl] at h
  injection h with h
  injection h with hb hf
  subst hb
  refine ⟨hf.symm, fun b hbm => ?_⟩
  cases hc : FindComplete.candToks o t items with
  | nil => rw [hc] at hbm; cases hbm
  | cons tk toks =>
    obtain ⟨g, hg, hd, hba, he, _⟩ :=
      cand_bucket o.style t.dir t.base t.ext (tk :: toks) (List.cons_ne_nil _ _)
    rw [hc, hg] at hbm
    exact List.mem_singleton.1 hbm ▸ ⟨hd, hba, he⟩

/-- Completeness: when the visible names `basename + frame number + extension` of the pattern's
    directory (`candToks`: the glob and the frame-number test, hidden names only on request) are
    two or more and share one digit width, the non-strict lookup returns ONE sequence with the
    pattern's directory, basename and extension, in the requested style, of that width, whose
    range text is the compressed list of ALL their numbers — no candidate is dropped, whatever
    else the directory holds and in whatever order it is read. -/
theorem C07_complete (lookup : Bytes → DirSpec) (pat : Bytes) (st : PadStyle) (hidden : Bool)
    (fs : Seq) (entries : List Entry) (w : Nat)
    (hp : Seq.parse st pat = .ok fs) (hl : lookup (openDir fs.dir) = some entries)
    (hnd : ∀ e ∈ entries, e.kind ≠ .dangling)
    (toks : List Bytes)
    (htoks : toks = FindComplete.candToks ⟨false, hidden, st⟩ fs
        ((entries.filter fun e => e.kind = .file ∨ e.kind = .linkFile).map fun e => ⟨dirPrefix (openDir fs.dir), e.name⟩))
    (h2 : 2 ≤ toks.length) (hw : ∀ tk ∈ toks, tk.length = w) :
    ∃ s, findSequenceOnDisk lookup pat st false hidden = .ok (some s) ∧
      s.dir = fs.dir ∧ s.base = fs.base ∧ s.ext = fs.ext ∧ s.style = st ∧
      s = (rebuild st fs.dir fs.base (framesToFrameRange (toks.map atoiOr0) true 0)
            (padChars st w) fs.ext).setPaddingStyle st := by
  refine ⟨_, FindComplete.find_uniform lookup pat st false hidden fs entries w hp hl hnd toks htoks h2 hw, ?_⟩
  rw [rebuild_setPaddingStyle]
  exact ⟨rfl, rfl, rfl, rfl, rfl⟩

/-- … and with StrictPadding: the same sequence when the pattern carries no padding or its pad
    width is the candidates' digit width, nothing otherwise ("only files whose digit width is
    compatible with the pattern's pad width", for a directory of one width) -/
theorem C07_complete_strict (lookup : Bytes → DirSpec) (pat : Bytes) (st : PadStyle) (hidden : Bool)
    (fs : Seq) (entries : List Entry) (w : Nat)
    (hp : Seq.parse st pat = .ok fs) (hl : lookup (openDir fs.dir) = some entries)
    (hnd : ∀ e ∈ entries, e.kind ≠ .dangling)
    (toks : List Bytes)
    (htoks : toks = FindComplete.candToks ⟨false, hidden, st⟩ fs
        ((entries.filter fun e => e.kind = .file ∨ e.kind = .linkFile).map fun e => ⟨dirPrefix (openDir fs.dir), e.name⟩))
    (h2 : 2 ≤ toks.length) (hw : ∀ tk ∈ toks, tk.length = w) (hw1 : 1 ≤ w)
    (hfr : framesToFrameRange (toks.map atoiOr0) true 0 ≠ []) :
    findSequenceOnDisk lookup pat st true hidden =
      .ok (if fs.pad.isEmpty = false ∧ (w : Int) ≠ fs.zfill then none
           else some ((rebuild st fs.dir fs.base (framesToFrameRange (toks.map atoiOr0) true 0)
                        (padChars st w) fs.ext).setPaddingStyle st)) := by
  have hz : padSize st (padChars st (w : Int)) = w := padSize_padChars st _ (by omega)
  rw [FindComplete.find_uniform lookup pat st true hidden fs entries w hp hl hnd toks htoks h2 hw,
    rebuild_setPaddingStyle, hz, hz]
  by_cases hc : fs.pad.isEmpty = false ∧ (w : Int) ≠ fs.zfill
  · rw [if_pos hc, List.filter_cons_of_neg (by simp [hc.1, hc.2])]
    rfl
  · rw [if_neg hc, List.filter_cons_of_pos (by simpa [Decidable.or_iff_not_imp_left] using hc)]
    rfl

/-- … and a single candidate is not dropped either: the non-strict lookup returns a sequence with
    the pattern's directory, basename and extension, in the requested style -/
theorem C07_complete_single (lookup : Bytes → DirSpec) (pat : Bytes) (st : PadStyle) (hidden : Bool)
    (fs : Seq) (entries : List Entry) (tk : Bytes)
    (hp : Seq.parse st pat = .ok fs) (hl : lookup (openDir fs.dir) = some entries)
    (hnd : ∀ e ∈ entries, e.kind ≠ .dangling)
    (htoks : FindComplete.candToks ⟨false, hidden, st⟩ fs
        ((entries.filter fun e => e.kind = .file ∨ e.kind = .linkFile).map fun e => ⟨dirPrefix (openDir fs.dir), e.name⟩) = [tk]) :
    ∃ s, findSequenceOnDisk lookup pat st false hidden = .ok (some s) ∧
      s.dir = fs.dir ∧ s.base = fs.base ∧ s.ext = fs.ext ∧ s.style = st := by
  obtain ⟨g, hg, hd, hb, he, hf⟩ := cand_bucket st fs.dir fs.base fs.ext [tk] (by simp)
  obtain ⟨pad, _, hbs⟩ := ListAux.bucketSeqs_single st g _ hf
  rw [FindComplete.find_eq lookup pat st false hidden fs entries hp hl hnd, htoks, hg]
  simp only [List.map_cons, List.map_nil, List.flatten_cons, List.flatten_nil, List.append_nil, hbs,
    hd, hb, he, ListAux.rebuild_eq]
  rw [List.filter_cons_of_pos (by simp)]
  exact ⟨_, rfl, rfl, rfl, rfl, rfl⟩

/-- The range text of the sequence that `C07_complete` finds (`framesToFrameRange` of the candidates'
    frame numbers) parses to exactly those numbers, ascending (C09), when they are distinct and fit
    an int. -/
theorem C07_complete_frames (toks : List Bytes) (hne : toks ≠ [])
    (hnd : (toks.map atoiOr0).Nodup)
    (hfit : ∀ a ∈ toks.map atoiOr0, ∀ b ∈ toks.map atoiOr0, Fits a ∧ Fits (a - b)) :
    ∃ fset, FrameSet.parse (framesToFrameRange (toks.map atoiOr0) true 0) = .ok fset ∧
      fset.frames = sortedSet (toks.map atoiOr0) :=
  f2r_sorted (toks.map atoiOr0) 0 (by simpa using hne) hnd hfit

/-- non-vacuity: a directory with three frames of one width among siblings that are no frames
    (nothing between basename and extension, a non-numeric middle, a range-like middle, a hidden
    frame, a sub-directory of a matching name) -/
def exEntries : List Entry :=
  [⟨"a.0001.exr".toList, .file⟩, ⟨"a..exr".toList, .file⟩, ⟨"a.x.exr".toList, .file⟩,
   ⟨"a.0003.exr".toList, .linkFile⟩, ⟨"a.1-5.exr".toList, .file⟩, ⟨".a.0007.exr".toList, .file⟩,
   ⟨"a.0009.exr".toList, .dir⟩, ⟨"a.0002.exr".toList, .file⟩]

example :
    FindComplete.candToks ⟨false, false, .hash4⟩
      ⟨"a.".toList, "/T/d/".toList, ".exr".toList, "#".toList, 4, none, .hash4⟩
      ((exEntries.filter fun e => e.kind = .file ∨ e.kind = .linkFile).map
        fun e => (⟨"/T/d/".toList, e.name⟩ : FileItem)) =
      ["0001".toList, "0003".toList, "0002".toList] := by
  decide +kernel

/-- the glob's slice expression is within bounds under the guard the code tests -/
theorem C07_slice_in_bounds (base ext name : Bytes) (h : base.length + ext.length ≤ name.length) :
    base.length ≤ name.length - ext.length ∧ name.length - ext.length ≤ name.length :=
  ⟨Nat.le_sub_of_add_le h, Nat.sub_le _ _⟩

/-- the declarations of /repo this property's model and specification were written from are,
    on this run, the ones the model was last aligned with (digest of their comment- and
    layout-insensitive fingerprints, re-extracted by tools/gofacts) -/
theorem C07_source : Gfs.Gen.sourceDigestC07 = Gfs.expectedSourceDigestC07 := rfl

end Gfs.Props.C07
