/-
  C09 — FramesToFrameRange is a right inverse of range parsing.
-/
import GfsProofs.CompressLemmas
import GfsGen.Facts
import GfsModel.ExpectedSrc

namespace Gfs.Props.C09
open Gfs Gfs.Spec Gfs.Proofs

/-- C09 (sorted = false): for every non-empty list of distinct ints — any length, any mix of
    ascending, descending and constant-stride runs, negative values — and every zfill, the
    range string produced parses back to exactly that list, in the given order.
    (`hfit`: the values and their pairwise differences fit an int, as the Go code needs.) -/
theorem C09_roundtrip (l : List Int) (z : Int) (hne : l ≠ []) (hnd : l.Nodup)
    (hfit : ∀ a ∈ l, ∀ b ∈ l, Fits a ∧ Fits (a - b)) :
    ∃ fs, FrameSet.parse (framesToFrameRange l false z) = .ok fs ∧ fs.frames = l := by
  rw [Compress.f2r_eq l false z hne]
  exact groups_roundtrip l z hne hnd hfit

/-- C09 (sorted = true): … parses back to the list in ascending order. -/
theorem C09_sorted (l : List Int) (z : Int) (hne : l ≠ []) (hnd : l.Nodup)
    (hfit : ∀ a ∈ l, ∀ b ∈ l, Fits a ∧ Fits (a - b)) :
    ∃ fs, FrameSet.parse (framesToFrameRange l true z) = .ok fs ∧ fs.frames = sortedSet l :=
  f2r_sorted l z hne hnd hfit

/-- with zfill ≥ 2 every number written is zero-padded to at least that width -/
theorem C09_zfill (f z : Int) (h : 2 ≤ z) : z ≤ (zfillInt f z).length :=
  zfillInt_length f z

/-- every number written is a numeral of the grammar with the right value -/
theorem C09_numeral (f z : Int) : NumText f (zfillInt f z) := zfillInt_numText f z

/-- the empty list gives the empty string -/
theorem C09_empty (s : Bool) (z : Int) : framesToFrameRange [] s z = [] := rfl

/-- non-vacuity: the hypotheses are satisfiable by a descending stride (the repaired D4) -/
example : ∃ fs, FrameSet.parse (framesToFrameRange [10, 8, 6] false 0) = .ok fs ∧ fs.frames = [10, 8, 6] :=
  C09_roundtrip [10, 8, 6] 0 (List.cons_ne_nil _ _) (by decide)
    (by unfold Fits minInt64 maxInt64; decide)

/-- the declarations of /repo this property's model and specification were written from are,
    on this run, the ones the model was last aligned with (digest of their comment- and
    layout-insensitive fingerprints, re-extracted by tools/gofacts) -/
theorem C09_source : Gfs.Gen.sourceDigestC09 = Gfs.expectedSourceDigestC09 := rfl

end Gfs.Props.C09
