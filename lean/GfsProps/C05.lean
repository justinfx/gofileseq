/-
  C05 — listing a set of paths covers every file exactly once (exact cover).
-/
import GfsProofs.ListLemmas
import GfsProofs.ListOrder
import GfsGen.Facts
import GfsModel.ExpectedSrc

namespace Gfs.Props.C05
open Gfs Gfs.Spec Gfs.Proofs Gfs.Proofs.Order

/-- the cleaned path of an input path, as (directory, file name) -/
def itemOf (p : Bytes) : FileItem := ⟨(pathSplit (pathClean p)).1, (pathSplit (pathClean p)).2⟩

/-- C05 (exact cover): given any list of paths whose cleaned forms are pairwise distinct and
    whose names are tame (`TameName`: frame token of at most 17 bytes, not a negative zero —
    the recorded finding), FindSequencesInList with single files enabled returns sequences
    whose expanded frame paths are exactly the cleaned input paths that the hidden-files
    option selects: none dropped, none reported twice, none invented — whatever mix of
    directories, basenames, extensions, digit widths, leading zeros, signs, frameless and
    bare relative names, under either pad style. -/
theorem C05_cover_partial (paths : List Bytes) (o : ListOpts) (hs : o.single = true)
    (hd : (paths.map pathClean).Nodup)
    (ht : ∀ p ∈ paths, TameName (itemOf p).name) :
    ∃ seqs, findSequencesInList paths o = .ok seqs ∧
      List.Perm (expandSeqs seqs)
        (((paths.map itemOf).filter (visibleItem o)).map FileItem.path) ∧
      ∀ p, FileItem.path (itemOf p) = pathClean p := by
  have hpath : ∀ p, FileItem.path (itemOf p) = pathClean p := fun p => pathSplit_concat (pathClean p)
  obtain ⟨seqs, hseqs, hperm⟩ := findInItems_cover_single (paths.map itemOf) o hs
    (by rw [List.map_map, List.map_congr_left (f := FileItem.path ∘ itemOf) fun p _ => hpath p]; exact hd)
    (List.forall_mem_map.2 ht)
  exact ⟨seqs, (findSequencesInList_items paths o).trans hseqs, hperm, hpath⟩

/-- Without the single-files option the result is that same result minus the entries that
    are not numbered sequences. -/
theorem C05_no_single (paths : List Bytes) (o : ListOpts)
    (ht : ∀ p ∈ paths, TameName (itemOf p).name) :
    ∃ all, findSequencesInList paths { o with single := true } = .ok all ∧
      findSequencesInList paths { o with single := false } = .ok (all.filter isNumbered) := by
  obtain ⟨all, h1, h2⟩ := findInItems_no_single (paths.map itemOf) o (List.forall_mem_map.2 ht)
  exact ⟨all, (findSequencesInList_items paths _).trans h1, (findSequencesInList_items paths _).trans h2⟩

/-- Hidden names appear only with the hidden-files option: without it they do not influence
    the result at all. -/
theorem C05_hidden (items : List FileItem) (o : ListOpts) (hh : o.hidden = false) :
    findInItems items o none =
      findInItems (items.filter (fun it => !isPrefixOf ['.'] it.name)) o none := by
  have hsk : (fun it : FileItem => !isPrefixOf ['.'] it.name) = fun it => !ListAux.hiddenSkip o it := by
    funext it; simp [ListAux.hiddenSkip, hh]
  rw [hsk, findInItems_visible]

/-- the listing never fails -/
theorem C05_total (o : ListOpts) (items : List FileItem) :
    ∃ r, scanItems o none items [] [] = .ok r :=
  ⟨_, ListAux.scan_eq o items [] []⟩

/-- "the files of each basename/extension share one digit width": any two listed files (not
    skipped as hidden) that the optional-frame pattern reads with the same directory, basename
    and extension have frame tokens of the same length -/
def OneWidthPerKey (o : ListOpts) (paths : List Bytes) : Prop := Uniform o (paths.map itemOf)

/-- C05, last clause: under that condition the result — as a set of sequences (hence of
    sequence strings) — does not depend on the order of the input list, for every permutation,
    every option subset and both pad styles; and the listing does not fail. -/
theorem C05_order (paths paths' : List Bytes) (o : ListOpts) (hperm : paths.Perm paths')
    (hU : OneWidthPerKey o paths) :
    ∃ r r', findSequencesInList paths o = .ok r ∧ findSequencesInList paths' o = .ok r' ∧
      (∀ s, s ∈ r ↔ s ∈ r') ∧ (∀ t, t ∈ r.map Seq.str ↔ t ∈ r'.map Seq.str) := by
  obtain ⟨r, r', h1, h2, h3⟩ :=
    findInItems_order o (paths.map itemOf) (paths'.map itemOf) (hperm.map itemOf) hU
  exact ⟨r, r', h1, h2, h3, fun t => by simp only [List.mem_map, h3]⟩

/-- non-vacuity: two keys, one width each, a frameless and a hidden file -/
example : OneWidthPerKey { single := true, hidden := false, style := .hash4 }
    ["/d/a.01.x".toList, "/d/a.02.x".toList, "/d/b.5.y".toList, "/d/notes".toList, "/d/.h.1.x".toList] := by
  unfold OneWidthPerKey Uniform
  decide +kernel

/-- the declarations of /repo this property's model and specification were written from are,
    on this run, the ones the model was last aligned with (digest of their comment- and
    layout-insensitive fingerprints, re-extracted by tools/gofacts) -/
theorem C05_source : Gfs.Gen.sourceDigestC05 = Gfs.expectedSourceDigestC05 := rfl

end Gfs.Props.C05
