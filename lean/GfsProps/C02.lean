/-
  C02 — FrameSet queries are mutually consistent views of one duplicate-free list.
-/
import GfsProofs.ParseSem
import GfsGen.Facts
import GfsModel.ExpectedSrc

namespace Gfs.Props.C02
open Gfs Gfs.Spec Gfs.Proofs

/-- every successfully parsed frame range has a well-formed block list -/
theorem C02_wf (txt : Bytes) (fs : FrameSet) (h : FrameSet.parse txt = .ok fs) : WF fs.blocks :=
  parse_ok_wf h

/-- C02: for every successfully parsed frame range, length, enumerated frames,
    frame-at-index, index-of-frame, membership, start and end describe one duplicate-free
    list `L` — for ALL indices and ALL integers (the property asks only for the indices in
    [-2, len+2] and the integers in [min-2, max+2]): an index outside [0,len) yields an error,
    a non-member yields index -1 and membership false.  (A frame set can be empty, e.g. "1-1y1"; start/end are the first/last member
    whenever there is one.) -/
theorem C02_views (txt : Bytes) (fs : FrameSet) (h : FrameSet.parse txt = .ok fs) :
    let L := fs.frames
    L.Nodup ∧ fs.len = L.length ∧
    (∀ i, fs.frame i = valueAt L i) ∧
    (∀ v, fs.index v = idxOf L v) ∧
    (∀ v, fs.hasFrame v = true ↔ v ∈ L) ∧
    (L ≠ [] → L.head? = some fs.start ∧ L.getLast? = some fs.fin) := by
  intro L
  have hwf := C02_wf txt fs h
  have hL : L = blocksEnum fs.blocks := blocks_iter fs.blocks hwf
  rw [hL]
  refine ⟨blocks_nodup _ hwf, blocks_len _ hwf, blocks_value _ hwf, blocks_index _ hwf,
    blocks_contains _ hwf.1, ?_⟩
  intro hne
  have hbne : fs.blocks ≠ [] := by
    intro hnil; apply hne; rw [hnil]; rfl
  exact ⟨blocks_start _ hwf hbne, blocks_fin _ hwf hbne⟩

/-- frame-at-index and index-of-frame are inverse bijections between [0,len) and the members -/
theorem C02_bijection (txt : Bytes) (fs : FrameSet) (h : FrameSet.parse txt = .ok fs) :
    (∀ i, 0 ≤ i → i < fs.len → ∃ v, fs.frame i = .ok v ∧ fs.index v = i) ∧
    (∀ v, fs.hasFrame v = true → 0 ≤ fs.index v ∧ fs.index v < fs.len ∧ fs.frame (fs.index v) = .ok v) := by
  obtain ⟨hnd, hlen, hval, hidx, hhas, _⟩ := C02_views txt fs h
  exact views_bijection fs.frames hnd fs.len hlen fs.frame hval fs.index hidx fs.hasFrame hhas

/-- the declarations of /repo this property's model and specification were written from are,
    on this run, the ones the model was last aligned with (digest of their comment- and
    layout-insensitive fingerprints, re-extracted by tools/gofacts) -/
theorem C02_source : Gfs.Gen.sourceDigestC02 = Gfs.expectedSourceDigestC02 := rfl

end Gfs.Props.C02
