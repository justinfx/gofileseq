/-
  C04 — Frame and Index yield the real file path of each frame.
-/
import GfsProofs.IndexLemmas
import GfsGen.Facts
import GfsModel.ExpectedSrc

namespace Gfs.Props.C04
open Gfs Gfs.Spec Gfs.Proofs

/-- the path of frame f is dirname + basename + f zero-padded to the pad width (the sign
    counts towards the width, as printf %0Nd) + extension — for every sequence that has a
    frame set and every integer f -/
theorem C04_frame (s : Seq) (h : s.frameSet.isSome = true) (f : Int) :
    s.frameInt f = framePath s.dir s.base s.ext s.zfill f :=
  frameInt_eq s h f

/-- the path at index i is the path of the i-th frame of its frame set; an index outside
    [0,len) gives the empty string — for every sequence whose frame set was parsed -/
theorem C04_index (s : Seq) (fs : FrameSet) (r : Bytes) (h : s.frameSet = some fs)
    (hp : FrameSet.parse r = .ok fs) (i : Int) :
    s.index i =
      if 0 ≤ i ∧ i < (fs.frames.length : Int)
      then framePath s.dir s.base s.ext s.zfill (fs.frames.getD i.toNat 0) else [] :=
  index_eq s fs h (parse_ok_wf hp) i

/-- the len paths are pairwise distinct -/
theorem C04_distinct (s : Seq) (fs : FrameSet) (r : Bytes) (h : s.frameSet = some fs)
    (hp : FrameSet.parse r = .ok fs) : s.paths.Nodup := by
  have hwf := parse_ok_wf hp
  rw [paths_eq s fs h hwf]
  have hnd : fs.frames.Nodup := by
    rw [FrameSet.frames, blocks_iter _ hwf]; exact blocks_nodup _ hwf
  exact hnd.map _ fun _ _ hab heq => hab (framePath_injective _ _ _ _ _ _ heq)

/-- zero filling is printf's %0Nd -/
theorem C04_zfill (f w : Int) : zfillInt f w = zfillSpec f w := zfillInt_eq_spec f w

/-- zero filling is injective: at one width `fmt.Sprintf("%0*d", w, ·)` writes different texts for different
    frame numbers, which is what keeps the paths of `C04_distinct` apart -/
theorem C04_zfill_injective (w a b : Int) (h : zfillSpec a w = zfillSpec b w) : a = b :=
  zfillSpec_injective w a b h

/-- Parsing a concrete single-file path (no pad-token character, no newline) and asking for
    index 0 gives back that same path, whether or not a frame number was recognised in it —
    for every such path whose recognised frame token is not a negative zero ("-0", "-00", …).
    The excluded class is the recorded finding C04/neg-zero: it is false there, see
    `C04_single_file_counterexample`. -/
theorem C04_single_file_partial (st : PadStyle) (p : Bytes) (hp : PlainPath p) (hnz : ¬ NegZeroFrame p) :
    ∃ s, Seq.parse st p = .ok s ∧ s.index 0 = p := by
  have hc : ¬ (p.contains '#' ∨ p.contains '@') := by
    rw [contains_eq_false_iff.mpr fun hm => let ⟨hh, _⟩ := hp _ hm; hh rfl,
      contains_eq_false_iff.mpr fun hm => let ⟨_, hat, _⟩ := hp _ hm; hat rfl]
    simp
  refine seqParse_elim (motive := fun r => ∃ s, r = .ok s ∧ s.index 0 = p) st p
    ?split ?error ?file ?frame
  case split =>
    intro name rng pad ext h
    rw [splitSeq_plain p hp] at h
    cases h
  case error =>
    intro _ h
    exact absurd h hc
  case file =>
    intro base ext _ _ hcat
    exact ⟨_, rfl, fallback_index st hcat⟩
  case frame =>
    intro name fr ext fs _ _ hsf hfs
    exact ⟨_, rfl, token_index st hsf hnz hfs⟩

/-- the parse of the witness "foo.-0.exr" of the recorded finding -/
def negZeroWitness : Seq :=
  ⟨['f','o','o','.'], [], ['.','e','x','r'], ['@','@'], 2, some ⟨['-','0'], [⟨0,0,1⟩]⟩, .hash4⟩

/-- the negation at the witness of the recorded finding: "foo.-0.exr" parses, and index 0
    gives "foo.00.exr", a different path -/
theorem C04_single_file_counterexample :
    Seq.parse .hash4 ['f','o','o','.','-','0','.','e','x','r'] = .ok negZeroWitness ∧
    negZeroWitness.index 0 = ['f','o','o','.','0','0','.','e','x','r'] := by
  exact ⟨rfl, by decide +kernel⟩

/-- non-vacuity of the single-file theorem: "a-12.x" meets its hypotheses -/
example : ∃ s, Seq.parse .hash1 ['a','-','1','2','.','x'] = .ok s ∧ s.index 0 = ['a','-','1','2','.','x'] := by
  apply C04_single_file_partial
  · unfold PlainPath
    decide
  · rintro ⟨name, fr, ext, h, zs, _, hz, hfr⟩
    have : singleFrame ['a','-','1','2','.','x'] = some (['a'], ['-','1','2'], ['.','x']) := by decide
    rw [this] at h
    cases h
    cases hfr
    exact absurd (hz '1' List.mem_cons_self) (by decide)

/-- the declarations of /repo this property's model and specification were written from are,
    on this run, the ones the model was last aligned with (digest of their comment- and
    layout-insensitive fingerprints, re-extracted by tools/gofacts) -/
theorem C04_source : Gfs.Gen.sourceDigestC04 = Gfs.expectedSourceDigestC04 := by rfl

end Gfs.Props.C04
