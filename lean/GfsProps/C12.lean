/-
  C12 — setters, Copy and Split preserve everything they do not change.
-/
import GfsProofs.SeqLemmas
import GfsProofs.NormLemmas
import GfsGen.Facts
import GfsModel.ExpectedSrc

namespace Gfs.Props.C12
open Gfs Gfs.Spec Gfs.Proofs

/-- After any sequence of setter / Copy / Split calls, the string of a sequence is always
    dirname+basename+range+pad+extension of its current components. -/
theorem C12_str (s : Seq) (ops : List SeqOp) :
    (s.run ops).str =
      (s.run ops).dir ++ (s.run ops).base ++ (s.run ops).frameRange ++ (s.run ops).pad ++ (s.run ops).ext := rfl

/-- SetDirname: a directory gains a missing trailing separator ('/', or '\\' for a directory that
    contains a backslash); nothing else changes. -/
theorem C12_setDirname (s : Seq) (d : Bytes) :
    let s' := s.setDirname d
    s'.dir = (if isSuffixOf [Seq.dirSep d] d then d else d ++ [Seq.dirSep d]) ∧
    s'.base = s.base ∧ s'.ext = s.ext ∧ s'.pad = s.pad ∧ s'.zfill = s.zfill ∧
    s'.frameSet = s.frameSet ∧ s'.style = s.style := by
  simp [Seq.setDirname]

/-- SetExt: an extension gains a missing leading dot; nothing else changes. -/
theorem C12_setExt (s : Seq) (e : Bytes) :
    let s' := s.setExt e
    s'.ext = (if isPrefixOf ['.'] e then e else '.' :: e) ∧
    s'.base = s.base ∧ s'.dir = s.dir ∧ s'.pad = s.pad ∧ s'.zfill = s.zfill ∧
    s'.frameSet = s.frameSet ∧ s'.style = s.style := by
  simp [Seq.setExt]

/-- SetBasename replaces the basename; nothing else changes. -/
theorem C12_setBasename (s : Seq) (b : Bytes) :
    let s' := s.setBasename b
    s'.base = b ∧ s'.ext = s.ext ∧ s'.dir = s.dir ∧ s'.pad = s.pad ∧ s'.zfill = s.zfill ∧
    s'.frameSet = s.frameSet ∧ s'.style = s.style := by
  simp [Seq.setBasename]

/-- SetPadding stores the pad characters as given and, as the width, what PaddingCharsSize of the
    sequence's pad style makes of them; nothing else changes. -/
theorem C12_setPadding (s : Seq) (p : Bytes) :
    let s' := s.setPadding p
    s'.pad = p ∧ s'.zfill = padSize s.style p ∧ s'.base = s.base ∧ s'.ext = s.ext ∧ s'.dir = s.dir ∧
    s'.frameSet = s.frameSet ∧ s'.style = s.style := by
  simp [Seq.setPadding]

/-- a failed SetFrameRange leaves the sequence untouched; a successful one only replaces
    the frame set -/
theorem C12_setFrameRange (s : Seq) (r : Bytes) :
    (∀ e, FrameSet.parse r = .error e → s.setFrameRange r = (s, false)) ∧
    (∀ fs, FrameSet.parse r = .ok fs → s.setFrameRange r = ({ s with frameSet := some fs }, true)) := by
  constructor
  · intro e h; simp [Seq.setFrameRange, h]
  · intro fs h; simp [Seq.setFrameRange, h]

/-- frame paths follow the current components -/
theorem C12_paths_follow (s : Seq) (ops : List SeqOp) (h : (s.run ops).frameSet.isSome = true) (f : Int) :
    (s.run ops).frameInt f =
      framePath (s.run ops).dir (s.run ops).base (s.run ops).ext (s.run ops).zfill f :=
  frameInt_eq _ h f

/-- every sequence obtained from NewFileSequencePad and then changed by any history of
    SetDirname / SetBasename / SetExt / SetPadding / SetPaddingStyle / SetFrameRange (valid
    or not) / SetFrameSet(parsed) / Copy / Split has a frame set that re-creates itself from
    its range string … -/
theorem C12_history_reparses (st : PadStyle) (txt : Bytes) (s : Seq) (ops : List SeqOp)
    (h : Seq.parse st txt = .ok s) (hops : ∀ op ∈ ops, op.derived = false) :
    Seq.Reparses (s.run ops) :=
  run_frameSet parse_reparses ops (fun op hop hd => absurd hd (by simp [hops op hop])) s
    fun fs hfs => (parse_frameSet h hfs).elim fun r hr => parse_reparses r fs hr

/-- … hence Copy yields a sequence with identical components, pad style and frame paths
    (as a value it is the same sequence; independence is by construction of the model:
    values are immutable) -/
theorem C12_copy (st : PadStyle) (txt : Bytes) (s : Seq) (ops : List SeqOp)
    (h : Seq.parse st txt = .ok s) (hops : ∀ op ∈ ops, op.derived = false) :
    (s.run ops).copy = s.run ops := by
  rcases copy_cases (s.run ops) with e | ⟨fs, fs', hfs, hp, e⟩
  · exact e
  · rw [C12_history_reparses st txt s ops h hops fs hfs] at hp
    cases hp
    rw [e, ← hfs]

/-- Split yields one sequence per comma component, each with the same dirname, basename,
    pad, pad width, pad style and extension, whose frames concatenated in order — a frame
    kept at its first occurrence, as in the original — are exactly the original's. -/
theorem C12_split (st : PadStyle) (txt : Bytes) (s : Seq) (ops : List SeqOp)
    (h : Seq.parse st txt = .ok s) (hops : ∀ op ∈ ops, op.derived = false)
    (fs : FrameSet) (hfs : (s.run ops).frameSet = some fs) :
    ((s.run ops).split).length = (splitOn ',' fs.frange).length ∧
    (∀ p ∈ (s.run ops).split, p.dir = (s.run ops).dir ∧ p.base = (s.run ops).base ∧
        p.pad = (s.run ops).pad ∧ p.zfill = (s.run ops).zfill ∧ p.style = (s.run ops).style ∧
        p.ext = (s.run ops).ext ∧ p.frameSet.isSome = true) ∧
    dedupFirst (((s.run ops).split).flatMap Seq.frames) = fs.frames :=
  split_parsed hfs (C12_history_reparses st txt s ops h hops fs hfs)

/-- EVERY history — including SetFrameSet(Normalize()) and SetFrameSet(Invert()), which install
    a frame set printed from blocks — keeps the frame set well formed and such that re-creating
    it from its range string, when that succeeds, gives the same frames. -/
theorem C12_history_sound (st : PadStyle) (txt : Bytes) (s : Seq) (ops : List SeqOp)
    (h : Seq.parse st txt = .ok s) : Seq.Sound (s.run ops) :=
  run_frameSet sound_of_parsed ops
    (fun _ _ _ fs inv hP => sound_of_blocks (normalized_wf fs.blocks hP.1 inv)) s
    fun fs hfs => (parse_frameSet h hfs).elim fun r hr => sound_of_parsed r fs hr

/-- … hence after every history Copy has the same dirname, basename, extension, pad, pad width
    and pad style, the same range string and the same frames, the same number of frames and
    the same file path at every index (for ALL histories, no exclusion; when a printed number
    does not fit an int the re-parse fails and Copy keeps the frame set it has). -/
theorem C12_copy_any (st : PadStyle) (txt : Bytes) (s : Seq) (ops : List SeqOp)
    (h : Seq.parse st txt = .ok s) :
    let r := s.run ops
    r.copy.dir = r.dir ∧ r.copy.base = r.base ∧ r.copy.ext = r.ext ∧ r.copy.pad = r.pad ∧
    r.copy.zfill = r.zfill ∧ r.copy.style = r.style ∧
    r.copy.frameSet.map FrameSet.frames = r.frameSet.map FrameSet.frames ∧
    r.copy.frameSet.map FrameSet.frange = r.frameSet.map FrameSet.frange ∧
    r.copy.len = r.len ∧ ∀ i, r.copy.index i = r.index i := by
  intro r
  rcases copy_cases r with e | ⟨fs, fs', hfs, hp, e⟩
  · rw [e]
    exact ⟨rfl, rfl, rfl, rfl, rfl, rfl, rfl, rfl, rfl, fun _ => rfl⟩
  · obtain ⟨hwf, hre⟩ := C12_history_sound st txt s ops h fs hfs
    obtain ⟨hfr, hwf'⟩ := hre fs' hp
    rw [e]
    refine ⟨rfl, rfl, rfl, rfl, rfl, rfl, ?_, ?_, ?_, ?_⟩
    · simp only [hfs, Option.map_some, hfr]
    · simp only [hfs, Option.map_some, parse_frange fs.frange fs' hp]
    · simp only [Seq.len, hfs, frameSet_len _ hwf', frameSet_len _ hwf, hfr]
    · intro i
      simp only [Seq.index, Seq.frameInt, hfs, frameSet_frame _ hwf', frameSet_frame _ hwf, hfr]

/-- … and Split, after every history, whenever the range string of the current frame set parses
    (it always does unless a printed number does not fit an int): one part per comma component
    with the sequence's dirname, basename, pad, width, style and extension, whose frames
    concatenate (first occurrences) to the sequence's frames. -/
theorem C12_split_any (st : PadStyle) (txt : Bytes) (s : Seq) (ops : List SeqOp)
    (h : Seq.parse st txt = .ok s) (fs fs' : FrameSet) (hfs : (s.run ops).frameSet = some fs)
    (hp : FrameSet.parse fs.frange = .ok fs') :
    ((s.run ops).split).length = (splitOn ',' fs.frange).length ∧
    (∀ p ∈ (s.run ops).split, p.dir = (s.run ops).dir ∧ p.base = (s.run ops).base ∧
        p.pad = (s.run ops).pad ∧ p.zfill = (s.run ops).zfill ∧ p.style = (s.run ops).style ∧
        p.ext = (s.run ops).ext ∧ p.frameSet.isSome = true) ∧
    dedupFirst (((s.run ops).split).flatMap Seq.frames) = fs.frames := by
  obtain ⟨h1, h2, h3⟩ := split_parsed hfs hp
  exact ⟨h1, h2, h3.trans ((C12_history_sound st txt s ops h fs hfs).2 fs' hp).1⟩

/-- non-vacuity: the two calls that the hypothesis `derived = false` of `C12_history_reparses`,
    `C12_copy` and `C12_split` excludes exist, and the hypothesis `Seq.parse … = .ok s` can be met -/
example : SeqOp.derived .invertSet = true ∧ SeqOp.derived .normalize = true ∧
    (∃ s, Seq.parse .hash4 "/d/b.1-5,9#.exr".toList = .ok s) := by
  refine ⟨rfl, rfl, ?_⟩
  cases h : Seq.parse .hash4 "/d/b.1-5,9#.exr".toList with
  | ok s => exact ⟨s, rfl⟩
  | error e =>
    have : (match Seq.parse .hash4 "/d/b.1-5,9#.exr".toList with | .ok _ => true | .error _ => false) = true := by
      decide +kernel
    rw [h] at this
    cases this

/-- Split of a sequence without frame set (a single file) returns that sequence alone
    (`FileSequences{s.Copy()}`, and Copy has nothing to re-create). -/
theorem C12_split_no_frames (s : Seq) (h : s.frameSet = none) : s.split = [s] := by
  simp [Seq.split, Seq.copy, h]

/-- the declarations of /repo this property's model and specification were written from are,
    on this run, the ones the model was last aligned with (digest of their comment- and
    layout-insensitive fingerprints, re-extracted by tools/gofacts) -/
theorem C12_source : Gfs.Gen.sourceDigestC12 = Gfs.expectedSourceDigestC12 := by rfl

end Gfs.Props.C12
