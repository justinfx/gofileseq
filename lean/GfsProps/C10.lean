/-
  C10 — pad characters and pad widths convert consistently in both pad styles.
-/
import GfsProofs.PadLemmas
import GfsGen.Facts
import GfsModel.ExpectedSrc

namespace Gfs.Props.C10
open Gfs Gfs.Spec Gfs.Proofs

/-- width → pad characters → width is the identity for every width n ≥ 1 (no upper bound),
    under each pad style -/
theorem C10_roundtrip (st : PadStyle) (n : Int) (h : 1 ≤ n) : padSize st (padChars st n) = n :=
  padSize_padChars st n h

/-- '#' counts 4 under the default style and 1 under hash1, '@' counts 1 — for every
    non-empty string over {#,@}, of any length -/
theorem C10_chars (st : PadStyle) (s : Bytes) (hne : s ≠ []) (h : ∀ c ∈ s, c = '#' ∨ c = '@') :
    padSize st s = (if st = .hash4 then 4 else 1) * (countChar '#' s : Int) + countChar '@' s :=
  padSize_chars st s hne h

/-- %0Nd and $FN count N (1 when N is absent or zero), the UDIM tokens count 4 -/
theorem C10_tokens (st : PadStyle) (s : Bytes) (t : PadTok) (h : classifyPad s = some t) :
    padSize st s = t.width st :=
  (padSize_classify st s t h).1

/-- switching the pad style of a sequence that has padding (width ≥ 1) rewrites its pad
    characters but never its pad width, so every frame path it produces is unchanged -/
theorem C10_style_switch (s : Seq) (st' : PadStyle) (h : 1 ≤ s.zfill) :
    (s.setPaddingStyle st').zfill = s.zfill ∧
    (∀ f, (s.setPaddingStyle st').frameInt f = s.frameInt f) ∧
    (s.frameSet.isSome → ∀ i, (s.setPaddingStyle st').index i = s.index i) ∧
    (s.setPaddingStyle st').pad = padChars st' s.zfill := by
  have hz : (s.setPaddingStyle st').zfill = s.zfill := by
    simp only [Seq.setPaddingStyle, Seq.setPadding]
    exact padSize_padChars st' s.zfill h
  have hf : ∀ f, (s.setPaddingStyle st').frameInt f = s.frameInt f := by
    intro f
    unfold Seq.frameInt
    rw [hz]
    rfl
  refine ⟨hz, hf, ?_, rfl⟩
  intro _ i
  unfold Seq.index
  have hfs : (s.setPaddingStyle st').frameSet = s.frameSet := rfl
  rw [hfs]
  cases hs : s.frameSet with
  | none => simp [hs] at *
  | some fs =>
    simp only
    cases fs.frame i with
    | ok f => exact hf f
    | error e => rfl

example : padChars .hash4 8 = "##".toList ∧ padSize .hash4 "##".toList = 8 ∧
    padChars .hash1 3 = "###".toList ∧ padSize .hash1 "#@#".toList = 3 ∧
    padSize .hash4 "%04d".toList = 4 ∧ padSize .hash1 "$F".toList = 1 ∧
    padSize .hash4 "<UDIM>".toList = 4 := by decide +kernel

/-- the declarations of /repo this property's model and specification were written from are,
    on this run, the ones the model was last aligned with (digest of their comment- and
    layout-insensitive fingerprints, re-extracted by tools/gofacts) -/
theorem C10_source : Gfs.Gen.sourceDigestC10 = Gfs.expectedSourceDigestC10 := rfl

end Gfs.Props.C10
