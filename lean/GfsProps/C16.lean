/-
  C16 — independent library calls are safe to run concurrently.

  Argument: (1) `C16_no_shared_writes`: outside `init`, no function of the library writes to
  package-level state (fact re-extracted from the sources on every run); (2)
  `C16_readonly`, `C16_no_conflict`: threads that only read shared state observe, under every
  interleaving, exactly what they observe alone, and never come to a write.  What the model
  cannot exhibit (partial): the Go memory model, the standard library's own thread safety
  (regexp, text/template, os) and the soundness of the syntactic write extraction; these are
  exercised by the `race` operation (fresh processes built with -race, cold start).
-/
import GfsModel.Expected
import GfsGen.Facts
import GfsProofs.SharedLemmas
import GfsModel.ExpectedSrc

namespace Gfs.Props.C16
open Gfs.Shared Gfs.Proofs

/-- no function outside `init` assigns to a package-level variable, or through a receiver
    of one of the shared mapper types -/
theorem C16_no_shared_writes : Gfs.Gen.sharedWrites = Gfs.expectedSharedWrites := rfl

/-- read-only threads: every schedule, any number of threads and actions -/
theorem C16_readonly (s : Sys) (sched : List Nat)
    (hro : ∀ t ∈ s.threads, ∀ a ∈ t.todo, a.isWrite = false) :
    (run s sched).mem = s.mem ∧
    (run s sched).threads.length = s.threads.length ∧
    ∀ (i : Nat) (t t' : Thread), s.threads[i]? = some t → (run s sched).threads[i]? = some t' →
      alone s.mem t' = alone s.mem t ∧ (t'.todo = [] → t'.seen = alone s.mem t) := by
  obtain ⟨h1, _, h3⟩ := run_readonly s sched hro
  refine ⟨h1, by simpa using congrArg List.length h3, fun i t t' ht ht' => ?_⟩
  have e : alone s.mem t' = alone s.mem t := by simpa [ht, ht'] using congrArg (·[i]?) h3
  exact ⟨e, fun hnil => by rw [← e]; simp [alone, hnil]⟩

/-- library calls that only read package-level state never come to a write, whatever the schedule,
    so no two of their accesses to it conflict -/
theorem C16_no_conflict (s : Sys) (sched : List Nat)
    (hro : ∀ t ∈ s.threads, ∀ a ∈ t.todo, a.isWrite = false) :
    ∀ t ∈ (run s sched).threads, ∀ a ∈ t.todo, a.isWrite = false :=
  (run_readonly s sched hro).2.1

/-- the hypothesis matters: once a thread writes (as the lazily filled cache of the unrepaired code
    did) a schedule exists under which another thread observes a value it would never see alone;
    the witness is a read scheduled after another thread's write -/
theorem C16_lazy_cache_racy :
    ∃ (s : Sys) (sched : List Nat) (t' : Thread),
      (run s sched).threads[1]? = some t' ∧ t'.todo = [] ∧
      ∃ t, s.threads[1]? = some t ∧ t'.seen ≠ alone s.mem t :=
  ⟨⟨fun _ => 0, [⟨[.write 0 1, .write 0 2], []⟩, ⟨[.read 0], []⟩]⟩, [0, 1], ⟨[], [1]⟩, rfl, rfl,
    ⟨[.read 0], []⟩, rfl, by decide⟩

/-- the declarations of /repo this property's model and specification were written from are,
    on this run, the ones the model was last aligned with (digest of their comment- and
    layout-insensitive fingerprints, re-extracted by tools/gofacts) -/
theorem C16_source : Gfs.Gen.sourceDigestC16 = Gfs.expectedSourceDigestC16 := rfl

end Gfs.Props.C16
