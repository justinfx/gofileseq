/-
  C08 — Normalize is the sorted set; Invert is its complement within [min,max].
-/
import GfsProofs.NormLemmas
import GfsProofs.StrParse
import GfsGen.Facts
import GfsModel.ExpectedSrc

namespace Gfs.Props.C08
open Gfs Gfs.Spec Gfs.Proofs

private theorem invert_blocks (fs : FrameSet) : fs.invert.blocks = Blocks.normalized fs.blocks true := by
  simp only [FrameSet.invert]
private theorem invert_frange (fs : FrameSet) : fs.invert.frange = Blocks.str (Blocks.normalized fs.blocks true) := by
  simp only [FrameSet.invert]
private theorem normalize_blocks (fs : FrameSet) : fs.normalize.blocks = Blocks.normalized fs.blocks false := by
  simp only [FrameSet.normalize]
private theorem normalize_frange (fs : FrameSet) : fs.normalize.frange = Blocks.str (Blocks.normalized fs.blocks false) := by
  simp only [FrameSet.normalize]
private theorem frames_def (fs : FrameSet) : fs.frames = Blocks.iter fs.blocks := rfl

/-- C08 (Normalize): for every accepted range string that denotes at least one frame, the
    normalized frame set has the same members in ascending order without duplicates. -/
theorem C08_normalize (txt : Bytes) (fs : FrameSet) (h : FrameSet.parse txt = .ok fs)
    (hne : fs.frames ≠ []) :
    fs.normalize.frames = sortedSet fs.frames ∧ WF fs.normalize.blocks := by
  have hwf := parse_ok_wf h
  obtain ⟨hwf', hen⟩ := normalized_sorted fs.blocks hwf
  rw [frames_def, frames_def, normalize_blocks, blocks_iter _ hwf', blocks_iter _ hwf]
  exact ⟨hen, hwf'⟩

/-- C08 (Invert): exactly the integers between the smallest and largest member that are
    not members (the empty list when there are none). -/
theorem C08_invert (txt : Bytes) (fs : FrameSet) (h : FrameSet.parse txt = .ok fs)
    (hne : fs.frames ≠ []) :
    fs.invert.frames = complement fs.frames ∧ WF fs.invert.blocks := by
  have hwf := parse_ok_wf h
  obtain ⟨hwf', hen⟩ := normalized_complement fs.blocks hwf
  rw [frames_def, frames_def, invert_blocks, blocks_iter _ hwf', blocks_iter _ hwf]
  exact ⟨hen, hwf'⟩

/-- The members of the complement lie between min and max and are not members. -/
theorem C08_invert_members (txt : Bytes) (fs : FrameSet) (h : FrameSet.parse txt = .ok fs)
    (hne : fs.frames ≠ []) (v : Int) :
    v ∈ fs.invert.frames ↔ (listMin fs.frames ≤ v ∧ v ≤ listMax fs.frames ∧ v ∉ fs.frames) := by
  rw [(C08_invert txt fs h hne).1]; exact mem_complement fs.frames v

private theorem normalize_blocks_ne (fs : FrameSet) (hne : fs.frames ≠ [])
    (hfr : fs.normalize.frames = sortedSet fs.frames) : fs.normalize.blocks ≠ [] := by
  intro hnil
  obtain ⟨a, ha⟩ := List.exists_mem_of_ne_nil _ hne
  have hm := (mem_sortedSet fs.frames a).mpr ha
  rw [← hfr, frames_def, hnil] at hm
  exact absurd hm (List.not_mem_nil)

/-- The range string Normalize produces re-parses to the same list (numbers fitting an int). -/
theorem C08_reparse_normalize (txt : Bytes) (fs : FrameSet) (h : FrameSet.parse txt = .ok fs)
    (hne : fs.frames ≠ [])
    (hfit : ∀ r ∈ fs.normalize.blocks, Fits r.start ∧ Fits r.fin ∧ Fits r.step) :
    ∃ fs', FrameSet.parse fs.normalize.frange = .ok fs' ∧ fs'.frames = sortedSet fs.frames := by
  obtain ⟨hfr, hwf'⟩ := C08_normalize txt fs h hne
  have hne' := normalize_blocks_ne fs hne hfr
  rw [← hfr, frames_def, normalize_frange, ← normalize_blocks]
  exact str_parse _ hwf' hne' hfit

/-- The range string Invert produces re-parses to the complement, when some integer between the
    smallest and largest member is missing (numbers fitting an int). -/
theorem C08_reparse_invert (txt : Bytes) (fs : FrameSet) (h : FrameSet.parse txt = .ok fs)
    (hne : fs.frames ≠ [])
    (hfit : ∀ r ∈ fs.invert.blocks, Fits r.start ∧ Fits r.fin ∧ Fits r.step)
    (hne' : fs.invert.blocks ≠ []) :
    ∃ fs', FrameSet.parse fs.invert.frange = .ok fs' ∧ fs'.frames = complement fs.frames := by
  obtain ⟨hfr, hwf'⟩ := C08_invert txt fs h hne
  rw [← hfr, frames_def, invert_frange, ← invert_blocks]
  exact str_parse _ hwf' hne' hfit

/-- The range string Invert produces is empty when no integer between the smallest and largest
    member is missing. -/
theorem C08_invert_empty (txt : Bytes) (fs : FrameSet) (h : FrameSet.parse txt = .ok fs)
    (hne : fs.frames ≠ []) (hc : complement fs.frames = []) :
    fs.invert.frange = [] := by
  obtain ⟨hfr, hwf'⟩ := C08_invert txt fs h hne
  have hb : fs.invert.blocks = [] := by
    apply Classical.byContradiction
    intro hbne
    apply blocksEnum_ne_nil _ hwf' hbne
    rw [← blocks_iter _ hwf', ← frames_def, hfr, hc]
  rw [invert_frange, ← invert_blocks, hb]; rfl

/-- Normalize is idempotent on the frame list. -/
theorem C08_idempotent (txt : Bytes) (fs : FrameSet) (h : FrameSet.parse txt = .ok fs)
    (hne : fs.frames ≠ []) :
    fs.normalize.normalize.frames = fs.normalize.frames := by
  obtain ⟨hfr, hwf'⟩ := C08_normalize txt fs h hne
  obtain ⟨hwf'', hen⟩ := normalized_sorted fs.normalize.blocks hwf'
  rw [frames_def, normalize_blocks fs.normalize, blocks_iter _ hwf'', hen, ← blocks_iter _ hwf',
    ← frames_def, hfr]
  exact sortedSet_idem fs.frames

/-- Normalize is order-insensitive: two accepted strings with the same members normalize to
    the same list. -/
theorem C08_order_insensitive (t1 t2 : Bytes) (f1 f2 : FrameSet)
    (h1 : FrameSet.parse t1 = .ok f1) (h2 : FrameSet.parse t2 = .ok f2)
    (hne : f1.frames ≠ []) (hsame : ∀ v, v ∈ f1.frames ↔ v ∈ f2.frames) :
    f1.normalize.frames = f2.normalize.frames := by
  have hne2 : f2.frames ≠ [] := by
    obtain ⟨a, ha⟩ := List.exists_mem_of_ne_nil _ hne
    exact List.ne_nil_of_mem ((hsame a).mp ha)
  rw [(C08_normalize t1 f1 h1 hne).1, (C08_normalize t2 f2 h2 hne2).1]
  exact sortedSet_perm _ _ hsame

example : ∃ fs, FrameSet.parse "10-1x3,5".toList = .ok fs ∧ fs.frames = [10, 7, 4, 1, 5] ∧
    fs.normalize.frames = [1, 4, 5, 7, 10] ∧ fs.invert.frames = [2, 3, 6, 8, 9] := by
  refine ⟨_, rfl, ?_, ?_, ?_⟩ <;> decide

/-- the declarations of /repo this property's model and specification were written from are,
    on this run, the ones the model was last aligned with (digest of their comment- and
    layout-insensitive fingerprints, re-extracted by tools/gofacts) -/
theorem C08_source : Gfs.Gen.sourceDigestC08 = Gfs.expectedSourceDigestC08 := rfl

end Gfs.Props.C08
