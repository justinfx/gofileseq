/-
  C11 — zero-padding a range string changes nothing but leading zeros.
-/
import GfsProofs.PadRangeLemmas
import GfsProofs.ParseSem
import GfsGen.Facts
import GfsModel.ExpectedSrc

namespace Gfs.Props.C11
open Gfs Gfs.Spec Gfs.Proofs

/-- widths below 2 leave the text unchanged -/
theorem C11_small_width (s : Bytes) (w : Int) (h : w < 2) : padFrameRange s w = s :=
  padFrameRange_small s w h

/-- the same comma-separated components in the same order, each padded on its own -/
theorem C11_components (s : Bytes) (w : Int) (h : 2 ≤ w) :
    splitOn ',' (padFrameRange s w) = (splitOn ',' s).map (padPart w) :=
  padFrameRange_parts s w h

/-- a component that is not a range is passed through in its place; a component that is a
    range remains the same component (same numbers, same modifier, step untouched) -/
theorem C11_component (w : Int) (part : Bytes) :
    (matchPart part = none → padPart w part = part) ∧
    (∀ c m, matchPart part = some m → MatchOf c m →
      ∃ m', matchPart (padPart w part) = some m' ∧ MatchOf c m' ∧ padPart w part = matchText m') := by
  refine ⟨padPart_of_none w, ?_⟩
  intro c m hm hc
  have hc' := matchOf_padMatch w c m hc
  refine ⟨padMatch w m, ?_, hc', padPart_of_some w hm⟩
  rw [padPart_of_some w hm]
  exact matchPart_complete hc'

/-- every frame numeral is left-padded with zeros to at least the requested width (the sign
    counts), keeps its value, and numerals already that wide are unchanged -/
theorem C11_numeral (n : Int) (t : Bytes) (w : Int) (h : NumText n t) :
    NumText n (zfillString t w) ∧ (w ≤ (zfillString t w).length ∨ zfillString t w = t) ∧
    ((t.length : Int) ≥ w → zfillString t w = t) ∧
    ((t.length : Int) < w → ((zfillString t w).length : Int) = w) := by
  refine ⟨zfillString_numText w h, ?_, zfillString_of_ge t w, zfillString_length_of_lt t w⟩
  by_cases hge : (t.length : Int) ≥ w
  · exact .inr (zfillString_of_ge t w hge)
  · exact .inl (by have := zfillString_length_of_lt t w (by omega); omega)

/-- padding is idempotent -/
theorem C11_idempotent (s : Bytes) (w : Int) :
    padFrameRange (padFrameRange s w) w = padFrameRange s w := by
  by_cases h : w < 2
  · rw [padFrameRange_small _ w h]
  · have h2 : 2 ≤ w := by omega
    rw [padFrameRange_of_ge (padFrameRange s w) w h2, padFrameRange_parts s w h2, List.map_map,
      padFrameRange_of_ge s w h2]
    congr 1
    apply List.map_congr_left
    intro p _
    exact padPart_idem w p

/-- the padded text parses to exactly the same frame set as the input, or both are
    rejected — for every text (valid, partially invalid, with spaces or pad characters) and
    every width -/
theorem C11_same_frames (s : Bytes) (w : Int) :
    (∀ fs, FrameSet.parse s = .ok fs →
        ∃ fs', FrameSet.parse (padFrameRange s w) = .ok fs' ∧ fs'.frames = fs.frames) ∧
    ((∃ e, FrameSet.parse s = .error e) → ∃ e, FrameSet.parse (padFrameRange s w) = .error e) := by
  -- C01: a text parses exactly when it is a text of valid components, and to what they denote;
  -- padding keeps a text of `cs` one and makes nothing else a text of `cs`
  constructor
  · intro fs h
    obtain ⟨cs, hne, hrt, hv, hf, -⟩ := parse_ok_sound h
    obtain ⟨fs', h', hf', -⟩ :=
      parse_rangeText cs _ hne ((rangeText_padFrameRange hne s w).2 hrt) hv
    exact ⟨fs', h', hf'.trans hf.symm⟩
  · rintro ⟨e, he⟩
    cases h' : FrameSet.parse (padFrameRange s w) with
    | error e' => exact ⟨e', rfl⟩
    | ok fs' =>
      obtain ⟨cs, hne, hrt, hv, -, -⟩ := parse_ok_sound h'
      obtain ⟨fs, h, -, -⟩ := parse_rangeText cs s hne ((rangeText_padFrameRange hne s w).1 hrt) hv
      rw [he] at h
      cases h

/-- non-vacuity: a part that is no range (`foo`) stays where it stood between its padded neighbours,
    and the step of `x2` is not padded (the repaired defect D5 of DESIGN.md appended such a part at the
    end) -/
example : padFrameRange "1,foo,-3-10x2".toList 4 = "0001,foo,-003-0010x2".toList := by
  decide +kernel

/-- the declarations of /repo this property's model and specification were written from are,
    on this run, the ones the model was last aligned with (digest of their comment- and
    layout-insensitive fingerprints, re-extracted by tools/gofacts) -/
theorem C11_source : Gfs.Gen.sourceDigestC11 = Gfs.expectedSourceDigestC11 := rfl

end Gfs.Props.C11
