/-
  C20 — the exported handle table keeps an object alive exactly while referenced.
-/
import GfsModel.Expected
import GfsGen.Facts
import GfsProofs.HandlesLemmas
import GfsProofs.XorshiftLemmas
import GfsModel.ExpectedSrc

namespace Gfs.Props.C20
open Gfs.Handles Gfs.Xorshift Gfs.Proofs

/-- every handle is non-zero -/
theorem C20_nonzero (s : BitVec 64) (n : Nat) : nth s n ≠ 0#64 := by
  induction n with
  | zero => exact seed_ne_zero s
  | succ n ih => exact fun h => ih (xor64_zero_iff.mp h)

/-- handles are unique: a repetition at positions i < j forces the generator state back to
    its seed (period of xorshift64: 2^64 − 1, cited not proved) -/
theorem C20_unique (s : BitVec 64) (i j : Nat) (hij : i < j) (h : nth s i = nth s j) :
    nth s (j - i) = nth s 0 :=
  ((nth_add_cancel s 0 (j - i) i).mp
    (by rw [Nat.zero_add, Nat.sub_add_cancel (Nat.le_of_lt hij)]; exact h)).symm

/-- the count of every created handle equals the number of references owned on it — in every
    reachable state of every interleaving of any number N of threads, any number of handles -/
theorem C20_refcount (N : Nat) (s : State) (h : Reach N s) (id : Id) (hc : s.created id = true) :
    s.cells id = sumOwned s N id := (inv_reach h).cells_eq id hc

/-- a handle resolves to its object while its count is positive -/
theorem C20_resolves (N : Nat) (s : State) (h : Reach N s) (id : Id)
    (hc : s.created id = true) (hp : 0 < s.cells id) : s.present id = true :=
  resolves N s h id hc hp

/-- A handle is in the map exactly when it has been created and either its count is positive or a
    `Decref` that took the count to zero has not yet passed its `delete` under the write lock: it is
    removed at zero, not before. -/
theorem C20_removed_at_zero (N : Nat) (s : State) (h : Reach N s) (id : Id) :
    s.present id = true ↔
      (s.created id = true ∧ (0 < s.cells id ∨ ∃ t, t < N ∧ removing (s.pc t) id = true)) :=
  (inv_reach h).present_iff id

/-- the live-object count returns to its starting value once all references are released -/
theorem C20_quiescent (N : Nat) (s : State) (h : Reach N s)
    (hidle : ∀ t, t < N → s.pc t = .idle) (hrel : ∀ t id, t < N → s.owned t id = 0) :
    ∀ id, s.present id = false := (inv_reach h).quiescent hidle hrel

/-- RWMutex discipline: never a writer together with readers, at most one thread in a writer
    section, and `readers` counts the threads in reader sections -/
theorem C20_mutex (N : Nat) (s : State) (h : Reach N s) :
    (s.writer = true → s.readers = 0) ∧
    (∀ t u, t < N → u < N → inWriter (s.pc t) = true → inWriter (s.pc u) = true → t = u) ∧
    ((∃ t, t < N ∧ inWriter (s.pc t) = true) ↔ s.writer = true) ∧
    s.readers = ((List.range N).filter fun t => inReader (s.pc t)).length :=
  have inv := inv_reach h
  ⟨inv.wr_rd, fun t u _ _ => inv.wr_uniq t u, ⟨fun ⟨t, _, ht⟩ => inv.wr_in t ht, inv.wr_ex⟩, inv.rd⟩

/-- a lookup issued by an owner always finds the handle, and a decrement never underflows -/
theorem C20_owner_ops (N : Nat) (s : State) (h : Reach N s) (t : Nat) (ht : t < N) (id : Id) :
    (∀ f, (s.pc t = .incRUnlock id f ∨ s.pc t = .decRUnlock id f) → f = true) ∧
    (s.pc t = .decAdd id → 1 ≤ s.cells id) :=
  have inv := inv_reach h
  ⟨inv.found t id, fun hpc => (inv.op_alive ht hpc rfl).2.1⟩

/-- the sequential semantics: operations on unknown or already released handles are harmless
    no-ops returning defaults -/
theorem C20_stale_noop (t : Table) (id : Id) (h : lookup t id = none) :
    seqStep t (.incref id) = (t, .unit) ∧ seqStep t (.decref id) = (t, .unit) ∧
    seqStep t (.get id) = (t, .found false) := by
  simp [seqStep, h]

/-- the statement skeleton of both handle maps, re-extracted from storage.go on this run, is
    the one the model's actions were written from (and the two copies agree) -/
theorem C20_skeleton : Gfs.Gen.handleSkeleton = Gfs.expectedHandleSkeleton := rfl

/-- the declarations of /repo this property's model and specification were written from are,
    on this run, the ones the model was last aligned with (digest of their comment- and
    layout-insensitive fingerprints, re-extracted by tools/gofacts) -/
theorem C20_source : Gfs.Gen.sourceDigestC20 = Gfs.expectedSourceDigestC20 := rfl

end Gfs.Props.C20
