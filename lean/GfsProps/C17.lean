/-
  C17 — seqls lists every selected file of the requested trees exactly once, every run.

  Proved here, for the channel pipeline of manager.go as a transition system with any number
  W ≥ 1 of workers, any work items and EVERY schedule: conservation, absence of deadlock,
  termination, no send on a closed channel, the final printed multiset, isolation of items
  that yield nothing; and for the recursive walk behind -r (the fastwalk callback with its cycle
  cache): it terminates on EVERY tree, cyclic and aliased directory links included — beyond a
  depth computed from the tree more fuel changes nothing.  What each work item yields is the Disk
  model (C06 / C07), whose exact cover is C05 / C06.  Not provable here (partial): fastwalk's
  internal work distribution (assumed: callback once per entry, returns after all callbacks),
  scheduler fairness, the schedules of the real binary (sampled with GOMAXPROCS 1 / 2 / 16).
-/
import GfsModel.Expected
import GfsGen.Facts
import GfsProofs.SeqlsLemmas
import GfsProofs.WalkTerm
import GfsModel.ExpectedSrc

namespace Gfs.Props.C17
open Gfs.Seqls Gfs.Proofs Gfs.Proofs.SeqlsP

/-- conservation: printed ⊎ held by workers ⊎ yield of the unsent items = yield of all items,
    in every reachable state of every schedule -/
theorem C17_conservation (seqs dirs : List Item) (w : Nat) (st : State) (h : Reach seqs dirs w st) :
    List.Perm (st.printed ++ heldLines st.workers ++ expectedLines (st.pendSeqs ++ st.pendDirs))
      (expectedLines (seqs ++ dirs)) := conservation seqs dirs w st h

/-- no deadlock: every reachable non-final state has an enabled step -/
theorem C17_no_deadlock (seqs dirs : List Item) (w : Nat) (hw : 1 ≤ w) (st : State)
    (h : Reach seqs dirs w st) (hnf : ¬ Final st) : ∃ st', Step st st' :=
  no_deadlock h hnf

/-- termination: a natural-number measure strictly decreases with every step -/
theorem C17_terminates (st st' : State) (h : Step st st') : measure st' < measure st := by
  rw [measure_eq, measure_eq]
  induction h with
  | sendSeq i it rest d hp hi =>
      apply cost_set_lt hi
      have := wcost_afterRecv_le d true it
      simp only [hp, List.length_cons]
      omega
  | sendDir i it rest s hps hp hi =>
      apply cost_set_lt hi
      have := wcost_afterRecv_le true s it
      simp only [hp, List.length_cons]
      omega
  | closeInputs hps hpd hc => simp [hc]
  | seeDirsClosed i b hc hi | seeSeqsClosed i b hc hi =>
      apply cost_set_lt hi
      apply Nat.add_lt_add_left
      cases b <;> decide
  | emit i d s ls hi ho =>
      apply cost_set_lt hi
      exact Nat.add_lt_add_left (Nat.lt_succ_self _) _
  | closeOutput hall ho => simp [ho]

/-- nothing is sent on a closed channel -/
theorem C17_no_send_on_closed (seqs dirs : List Item) (w : Nat) (st : State) (h : Reach seqs dirs w st) :
    (st.inputsClosed = true → st.pendSeqs = [] ∧ st.pendDirs = []) ∧
    (st.outClosed = true → ∀ wk ∈ st.workers, wk = .done) :=
  ⟨(inv_reach h).closed, (inv_reach h).outc⟩

/-- the printed multiset of every finished run is the expected one — the same on every run,
    whatever the worker scheduling and the number of workers W ≥ 1 -/
theorem C17_output (seqs dirs : List Item) (w : Nat) (hw : 1 ≤ w) (st : State)
    (h : Reach seqs dirs w st) (hf : Final st) :
    List.Perm st.printed (expectedLines (seqs ++ dirs)) := by
  have hinv := inv_reach h
  have hall := hinv.outc hf
  -- a worker exists and is done, hence not fresh: the inputs are closed, so nothing is pending
  obtain ⟨wk, hm⟩ := List.exists_mem_of_length_pos (hinv.len ▸ hw)
  have hic : st.inputsClosed = true :=
    Bool.not_eq_false _ ▸ fun hc => (hall wk hm ▸ hinv.fresh hc wk hm : Worker.fresh .done)
  simpa only [heldLines_eq_nil fun wk hm => hall wk hm ▸ rfl, (hinv.closed hic).1,
    (hinv.closed hic).2, List.append_nil, expectedLines_nil] using conservation seqs dirs w st h

/-- (the hypothesis W ≥ 1 is needed: with zero workers the closer may close the output at once) -/
theorem C17_output_needs_workers :
    ¬ ∀ (seqs dirs : List Item) (w : Nat) (st : State), Reach seqs dirs w st → Final st →
      List.Perm st.printed (expectedLines (seqs ++ dirs)) := by
  intro hall
  let it : Item := ⟨false, some [[]]⟩
  have hr : Reach [it] [] 0 { initState [it] [] 0 with outClosed := true } :=
    .step .init (.closeOutput _ (fun _ h => absurd h List.not_mem_nil) rfl)
  exact absurd (hall [it] [] 0 _ hr rfl).length_eq nofun

/-- a bad argument (an item that yields nothing) never alters what the others print -/
theorem C17_bad_arg_isolated (seqs dirs : List Item) (bad : Item) (hb : bad.result = none) :
    expectedLines (seqs ++ bad :: dirs) = expectedLines (seqs ++ dirs) ∧
    expectedLines (bad :: seqs ++ dirs) = expectedLines (seqs ++ dirs) :=
  ⟨expectedLines_bad hb seqs dirs, expectedLines_bad hb [] (seqs ++ dirs)⟩

/-- the recursive walk terminates on every tree, whatever its links: `walkBound t` = (number of
    directory links + 1) × (longest path or link target + 2) bounds the nesting of the calls (each
    nested call either descends to a longer real path or follows a link whose target is recorded
    for the first time), so the walk with that much fuel — the one the protocol driver runs — is
    the walk with any larger amount of fuel, i.e. the fuel-free recursion of the Go code. -/
theorem C17_walk_terminates (t : Tree) (all : Bool) (seen : List Bytes) (shown real : Bytes) (k : Nat) :
    walk t all (walkBound t + k) seen shown real = walk t all (walkBound t) seen shown real := by
  induction k with
  | zero => rfl
  | succ k ih =>
    rw [← ih, ← Nat.add_assoc]
    exact WalkTerm.walk_stable t all (walkBound t + k) seen shown real
      (Nat.lt_of_lt_of_le (WalkTerm.mu_lt_bound t seen real) (Nat.le_add_right _ _))

/-- the cycle cache only grows: a target recorded once stays recorded for the rest of the walk
    (why a link met again — through a cycle or an alias — is listed but not followed) -/
theorem C17_walk_cache_grows (t : Tree) (all : Bool) (fuel : Nat) (seen : List Bytes) (shown real : Bytes) :
    ∀ x ∈ seen, x ∈ (walk t all fuel seen shown real).2 :=
  fun _ hx => WalkTerm.walk_seen_sub t all fuel seen shown real hx

/-- without -a, no directory with a hidden name (longer than one byte, starting with '.') is
    ever listed — a sub-directory, a link, or the starting point itself, at any depth, on any tree -/
theorem C17_walk_no_hidden (t : Tree) (fuel : Nat) (seen : List Bytes) (shown real : Bytes) :
    ∀ p ∈ (walk t false fuel seen shown real).1, ¬ WalkTerm.hiddenName (baseName p.1) :=
  WalkTerm.walk_listed (t := t) (all := false) (P := fun _ p => ¬ WalkTerm.hiddenName (baseName p.1))
    (fun _ _ h hh => h ⟨rfl, hh⟩) (fun _ _ _ _ _ h => h) (fun _ _ _ _ _ _ h => h) fuel seen shown real

/-- what is listed is the starting directory, a sub-directory node, or the target of a directory
    link: files and links to files are never walked into -/
theorem C17_walk_lists_dirs (t : Tree) (all : Bool) (fuel : Nat) (seen : List Bytes) (shown real : Bytes) :
    ∀ p ∈ (walk t all fuel seen shown real).1,
      p.2 = real ∨ (∃ n ∈ t, n.kind = .dir ∧ n.path = p.2) ∨ p.2 ∈ targets t :=
  WalkTerm.walk_listed (all := all)
    (P := fun real p => p.2 = real ∨ (∃ n ∈ t, n.kind = .dir ∧ n.path = p.2) ∨ p.2 ∈ targets t)
    (fun _ _ _ => .inl rfl)
    (fun n hn hk _ _ h => .inr (h.elim (fun e => .inl ⟨n, hn, hk, e.symm⟩) id))
    (fun _ hn _ hk _ _ h => .inr (h.elim (fun e => .inr (e ▸ WalkTerm.target_mem hn hk)) id))
    fuel seen shown real

/-- a cyclic tree (show/shot/up -> show, next to a link to a flat directory): the walk ends, and
    lists the second pass through the cycle without following its links again -/
example :
    let t : Tree := [⟨"show".toList, .dir⟩, ⟨"show/shot".toList, .dir⟩, ⟨"pub".toList, .dir⟩,
      ⟨"show/shot/up".toList, .linkDir "show".toList⟩, ⟨"show/shot/ln".toList, .linkDir "pub".toList⟩]
    (walk t false (walkBound t) [] "show".toList "show".toList).1.map (·.1) =
      ["show".toList, "show/shot".toList, "show/shot/up".toList, "show/shot/up/shot".toList,
       "show/shot/up/shot/up".toList, "show/shot/up/shot/ln".toList, "show/shot/ln".toList] := by
  decide +kernel

/-- the goroutine / channel skeleton of the work manager, re-extracted from manager.go on this
    run, is the one the transition system was written from -/
theorem C17_skeleton : Gfs.Gen.seqlsSkeleton = Gfs.expectedSeqlsSkeleton := rfl

/-- the declarations of /repo this property's model and specification were written from are,
    on this run, the ones the model was last aligned with (digest of their comment- and
    layout-insensitive fingerprints, re-extracted by tools/gofacts) -/
theorem C17_source : Gfs.Gen.sourceDigestC17 = Gfs.expectedSourceDigestC17 := rfl

end Gfs.Props.C17
