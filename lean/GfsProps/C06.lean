/-
  C06 — scanning a directory equals listing its non-directory entries.
  The file system is a parameter of the model (a directory is a value); what the kernel
  reports for a real directory is exercised by the correspondence run on materialised
  temp directories, not proved (partial).
-/
import GfsProofs.DiskLemmas
import GfsProofs.ListLemmas
import GfsGen.Facts
import GfsModel.ExpectedSrc

namespace Gfs.Props.C06
open Gfs Gfs.Spec Gfs.Proofs

/-- C06: FindSequencesOnDisk(dir) returns exactly what the listing returns for the items
    (dirPrefix dir, name) of dir's entries that are regular files or symlinks to
    non-directories — sub-directories and symlinks to directories are never reported — with
    the same options having the same meaning; for every spelling of the argument. -/
theorem C06_equiv (entries : List Entry) (arg : Bytes) (o : ListOpts)
    (hd : ∀ e ∈ entries, e.kind ≠ .dangling) :
    findSequencesOnDisk (some entries) arg o =
      findInItems ((entries.filter keptEntry).map fun e => ⟨dirPrefix arg, e.name⟩) o none := by
  rw [findSequencesOnDisk, scanDir_ok entries arg o none hd, filter_kept]

/-- ListFiles(dir) is the same with the single-files option. -/
theorem C06_listFiles (d : DirSpec) (arg : Bytes) :
    listFiles d arg = findSequencesOnDisk d arg { single := true, hidden := false, style := .hash4 } := rfl

/-- A directory that cannot be read, or a dangling symlink in it, yields an error rather
    than a partial listing. -/
theorem C06_errors (d : DirSpec) (arg : Bytes) (o : ListOpts)
    (h : d = none ∨ ∃ entries, d = some entries ∧ ∃ e ∈ entries, e.kind = .dangling) :
    ∃ err, findSequencesOnDisk d arg o = .error err := by
  rw [findSequencesOnDisk]
  rcases h with rfl | ⟨entries, rfl, e, he, hk⟩
  · exact ⟨.io, rfl⟩
  · refine ⟨.io, ?_⟩
    have hany : entries.any (fun e => decide (e.kind = .dangling)) = true := by
      rw [List.any_eq_true]; exact ⟨e, he, by simpa using hk⟩
    simp only [scanDir, hany]
    rfl

/-- Every reported sequence lies directly under dir: it carries the directory prefix
    Clean(dir) + separator. -/
theorem C06_under_dir (entries : List Entry) (arg : Bytes) (o : ListOpts) (seqs : List Seq)
    (hd : ∀ e ∈ entries, e.kind ≠ .dangling)
    (h : findSequencesOnDisk (some entries) arg o = .ok seqs) :
    ∀ s ∈ seqs, s.dir = dirPrefix arg ∧ isSuffixOf ['/'] s.dir = true := by
  rw [C06_equiv entries arg o hd] at h
  intro s hs
  obtain ⟨it, hit, hdir⟩ := findInItems_dirs _ o seqs h s hs
  obtain ⟨e, _, rfl⟩ := List.mem_map.mp hit
  exact ⟨hdir, by rw [hdir]; exact dirPrefix_sep arg⟩

/-- … and, by the exact-cover theorem of C05, the expansion of a scan with single files is
    exactly the selected non-directory entries (tame names, distinct by construction). -/
theorem C06_cover_partial (entries : List Entry) (arg : Bytes) (o : ListOpts) (hs : o.single = true)
    (hd : ∀ e ∈ entries, e.kind ≠ .dangling)
    (hn : ((entries.filter keptEntry).map (·.name)).Nodup)
    (ht : ∀ e ∈ entries, TameName e.name) :
    ∃ seqs, findSequencesOnDisk (some entries) arg o = .ok seqs ∧
      List.Perm (expandSeqs seqs)
        ((((entries.filter keptEntry).map fun e => (⟨dirPrefix arg, e.name⟩ : FileItem)).filter
            (visibleItem o)).map FileItem.path) := by
  rw [C06_equiv entries arg o hd]
  apply findInItems_cover_single _ o hs
  · -- the paths are the names behind one prefix
    have h := hn.map (S := (· ≠ ·)) (dirPrefix arg ++ ·) fun _ _ hne hab => hne (List.append_cancel_left hab)
    rw [List.map_map] at h ⊢
    exact h
  · intro it hit
    obtain ⟨e, he, rfl⟩ := List.mem_map.mp hit
    exact ht e (List.mem_filter.mp he).1

/-- the declarations of /repo this property's model and specification were written from are,
    on this run, the ones the model was last aligned with (digest of their comment- and
    layout-insensitive fingerprints, re-extracted by tools/gofacts) -/
theorem C06_source : Gfs.Gen.sourceDigestC06 = Gfs.expectedSourceDigestC06 := rfl

end Gfs.Props.C06
