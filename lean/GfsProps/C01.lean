/-
  C01 — frame-range strings expand to exactly the frame list the shorthand denotes;
  everything else is rejected.
-/
import GfsProofs.ParseSem
import GfsGen.Facts
import GfsModel.ExpectedSrc

namespace Gfs.Props.C01
open Gfs Gfs.Spec Gfs.Proofs

/-- C01 (expansion): for every component list of the documented shorthand — any number of
    components, any sign, direction, step magnitude and sign, modifier, position, leading
    zeros, and any placement of spaces / '#' / '@' in the text — whose steps are non-zero
    and whose numbers fit an int, parsing succeeds and yields exactly the denoted list:
    each component expanded in its own direction with its own step, concatenated left to
    right, a frame kept only at its first occurrence. -/
theorem C01_expand (cs : List Comp) (txt : Bytes) (hne : cs ≠ [])
    (ht : RangeText cs txt) (hv : ∀ c ∈ cs, c.valid) :
    ∃ fs, FrameSet.parse txt = .ok fs ∧ fs.frames = denote cs ∧ WF fs.blocks :=
  parse_rangeText cs txt hne ht hv

/-- C01 (rejection): a string is accepted exactly when it is a text of some non-empty
    component list of the grammar whose steps are non-zero and whose numbers all fit an int.
    Hence strings outside the grammar, with a zero step, or with a numeral that does not fit
    are rejected with an error. -/
theorem C01_accept_iff (txt : Bytes) :
    (∃ fs, FrameSet.parse txt = .ok fs) ↔
    ∃ cs, cs ≠ [] ∧ RangeText cs txt ∧ ∀ c ∈ cs, c.valid := by
  constructor
  · rintro ⟨fs, hfs⟩
    obtain ⟨cs, hne, hrt, hv, -, -⟩ := parse_ok_sound hfs
    exact ⟨cs, hne, hrt, hv⟩
  · rintro ⟨cs, hne, hrt, hv⟩
    obtain ⟨fs, hfs, -, -⟩ := parse_rangeText cs txt hne hrt hv
    exact ⟨fs, hfs⟩

/-- Length agrees with the denotation. -/
theorem C01_len (cs : List Comp) (txt : Bytes) (hne : cs ≠ [])
    (ht : RangeText cs txt) (hv : ∀ c ∈ cs, c.valid) :
    ∃ fs, FrameSet.parse txt = .ok fs ∧ fs.len = (denote cs).length := by
  obtain ⟨fs, hfs, hfr, hwf⟩ := C01_expand cs txt hne ht hv
  refine ⟨fs, hfs, ?_⟩
  rw [FrameSet.len, blocks_len _ hwf, ← hfr, FrameSet.frames, blocks_iter _ hwf]

/-- the declarations of /repo this property's model and specification were written from are,
    on this run, the ones the model was last aligned with (digest of their comment- and
    layout-insensitive fingerprints, re-extracted by tools/gofacts) -/
theorem C01_source : Gfs.Gen.sourceDigestC01 = Gfs.expectedSourceDigestC01 := rfl

end Gfs.Props.C01
