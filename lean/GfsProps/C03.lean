/-
  C03 — a sequence string decomposes losslessly into dir, base, range, pad, ext.
-/
import GfsProofs.SplitLemmas
import GfsProofs.ParseSem
import GfsModel.Seqinfo
import GfsGen.Facts
import GfsModel.ExpectedSrc

namespace Gfs.Props.C03
open Gfs Gfs.Spec Gfs.Proofs

/-- C03: for every tuple (dir, base, range, pad token, ext, pad style) of the unambiguous
    domain (`Spec.unambig`: a decidable predicate — see GfsSpec/SeqSpec.lean), parsing the
    concatenated string returns exactly those five components, the pad width that token
    denotes under the chosen style, and the frame set of that range. -/
theorem C03_decompose (st : PadStyle) (dir base rng pad ext : Bytes)
    (h : unambig dir base rng pad ext = true) :
    ∃ t, classifyPad pad = some t ∧
    Seq.parse st (dir ++ base ++ rng ++ pad ++ ext) =
      .ok ⟨base, dir, ext, pad, t.width st, (FrameSet.parse rng).toOption, st⟩ := by
  have F := unambig_facts h
  obtain ⟨t, ht⟩ := F.hpad
  refine ⟨t, ht, ?_⟩
  unfold Seq.parse
  rw [splitSeq_unambig dir base rng pad ext h]
  simp only [pathSplit_dir_base dir base F.hdir F.hbase, Seq.setPadding, (padSize_classify st pad t ht).1]

/-- … and String() reproduces the input byte for byte (hence so does Format with
    {{dir}}{{base}}{{frange}}{{pad}}{{ext}}: `C03_format_default`). -/
theorem C03_roundtrip (st : PadStyle) (dir base rng pad ext : Bytes)
    (h : unambig dir base rng pad ext = true) :
    ∃ s, Seq.parse st (dir ++ base ++ rng ++ pad ++ ext) = .ok s ∧
      s.str = dir ++ base ++ rng ++ pad ++ ext := by
  obtain ⟨t, -, hp⟩ := C03_decompose st dir base rng pad ext h
  refine ⟨_, hp, ?_⟩
  have hfr : Seq.frameRange ⟨base, dir, ext, pad, t.width st,
      (FrameSet.parse rng).toOption, st⟩ = rng := by
    unfold Seq.frameRange
    cases hpr : FrameSet.parse rng with
    | error e =>
      rcases (unambig_facts h).hparse with rfl | hs
      · simp [Except.toOption]
      · rw [hpr] at hs
        simp [Except.toOption] at hs
    | ok fs => simp [Except.toOption, parse_frange rng fs hpr]
  simp only [Seq.str]
  rw [hfr]

/-- Format with the documented template: evaluated by the template model (literal text and
    niladic `{{fn}}` actions, GfsModel.Seqinfo) it IS String(), for every sequence — so the
    round trip above also holds for `Format("{{dir}}{{base}}{{frange}}{{pad}}{{ext}}")`. -/
theorem C03_format_default (s : Seq) :
    Seqinfo.format s "{{dir}}{{base}}{{frange}}{{pad}}{{ext}}".toList = some s.str := by
  -- to the kernel the literal is `String.ofList` of its characters; evaluating `toList` on it is dear
  rw [String.toList_ofList]
  -- the template evaluates to the five fields in a row, which is `str` up to bracketing
  refine Eq.trans (b := some (s.dir ++ (s.base ++ (s.frameRange ++ (s.pad ++ (s.ext ++ [])))))) rfl ?_
  rw [Seq.str, List.append_nil]
  simp only [List.append_assoc]

/-- non-vacuity: basenames ending in range-directive letters, multi-part and digit-bearing
    extensions, negative and multi-component ranges, empty dir / range / ext are in the domain -/
example : unambig "/a/b/".toList "shot_x".toList "-5-10x2,20".toList "#".toList ".tar.gz".toList = true ∧
    unambig [] "take:".toList [] "%04d".toList ".1x".toList = true ∧
    unambig "rel/".toList "list,".toList "1-3".toList "$F2".toList [] = true := by decide +kernel

/-- the declarations of /repo this property's model and specification were written from are,
    on this run, the ones the model was last aligned with (digest of their comment- and
    layout-insensitive fingerprints, re-extracted by tools/gofacts) -/
theorem C03_source : Gfs.Gen.sourceDigestC03 = Gfs.expectedSourceDigestC03 := by rfl

end Gfs.Props.C03
