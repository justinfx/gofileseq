/-
  C18 — seqinfo reports the library's parse of each pattern, one entry per pattern.

  `Seqinfo.parse` is, by definition, the composition of the model's library setters in the
  order reformat → component overrides → inversion → index / frame selection (C03 / C12 give
  their meaning); the theorems here are about the concurrent collection.  Partial: --format
  with arbitrary templates goes through text/template (only literal text and niladic actions
  are modelled), flag parsing (go-flags) is trusted.
-/
import GfsModel.Expected
import GfsGen.Facts
import GfsProofs.SeqinfoLemmas
import GfsModel.ExpectedSrc

namespace Gfs.Props.C18
open Gfs Gfs.Seqinfo Gfs.Proofs

/-- one result per distinct pattern: the keys of the output map are duplicate-free and are
    exactly the patterns given -/
theorem C18_one_per_pattern (rs : List Result) :
    ((collect rs).map (·.orig)).Nodup ∧
    ∀ p, p ∈ (collect rs).map (·.orig) ↔ p ∈ rs.map (·.orig) := by
  obtain ⟨h1, h2⟩ := foldl_keys rs [] List.nodup_nil
  exact ⟨h1, fun p => (h2 p).trans (or_iff_right List.not_mem_nil)⟩

/-- the entry for a pattern is the library's result for that pattern (`hfun`: the result is a
    function of the pattern and the options) -/
theorem C18_entry (rs : List Result)
    (hfun : ∀ r ∈ rs, ∀ r' ∈ rs, r.orig = r'.orig → r = r') (r : Result) :
    r ∈ collect rs ↔ r ∈ rs := by
  -- the map has an entry under the pattern, and every entry is one of the results
  refine ⟨collect_subset rs r, fun hr => ?_⟩
  obtain ⟨r', hr', he⟩ :=
    List.mem_map.1 (((C18_one_per_pattern rs).2 r.orig).2 (List.mem_map.2 ⟨r, hr, rfl⟩))
  exact hfun r' (collect_subset rs r' hr') r hr he ▸ hr'

/-- the output content does not depend on the order in which the concurrent parses finish -/
theorem C18_order_independent (rs rs' : List Result) (hp : List.Perm rs rs')
    (hfun : ∀ r ∈ rs, ∀ r' ∈ rs, r.orig = r'.orig → r = r') (r : Result) :
    r ∈ collect rs ↔ r ∈ collect rs' := by
  rw [C18_entry rs hfun r, C18_entry rs' (fun a ha b hb =>
    hfun a (hp.mem_iff.2 ha) b (hp.mem_iff.2 hb)) r]
  exact hp.mem_iff

/-- a pattern that fails to parse yields an entry carrying its error, keyed by the pattern -/
theorem C18_error_entry (pat : Bytes) (o : Opts)
    (h : ∃ e, Seq.parse (if o.hash1 then PadStyle.hash1 else PadStyle.hash4) pat = .error e) :
    Seqinfo.parse pat o = some (errResult pat) := by
  obtain ⟨e, he⟩ := h
  unfold Seqinfo.parse
  simp only [he]

/-- every result of `parse(pattern, opts)`, the error entry included, has `origString` = the
    pattern, the key under which main stores it (`results[res.origString] = res`) -/
theorem C18_keyed_by_pattern (pat : Bytes) (o : Opts) (r : Result) (h : Seqinfo.parse pat o = some r) :
    r.orig = pat :=
  (parse_some h).elim (· ▸ rfl) (·.1)

/-- the goroutine-per-pattern / channel skeleton re-extracted from seqinfo.go on this run -/
theorem C18_skeleton : Gfs.Gen.seqinfoSkeleton = Gfs.expectedSeqinfoSkeleton := rfl

/-- the declarations of /repo this property's model and specification were written from are,
    on this run, the ones the model was last aligned with (digest of their comment- and
    layout-insensitive fingerprints, re-extracted by tools/gofacts) -/
theorem C18_source : Gfs.Gen.sourceDigestC18 = Gfs.expectedSourceDigestC18 := rfl

end Gfs.Props.C18
