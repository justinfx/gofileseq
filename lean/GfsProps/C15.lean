/-
  C15 — no input crashes the parsing API; IsFrameRange agrees with the parser.

  Crash freedom: every function of the model is a total Lean function whose termination
  was checked by the kernel (structural recursion, or well-founded recursion with a proved
  measure); the model has no partial operation (no `get!`, no `head!`, no division by a
  possibly-zero step: `mkRng` never stores 0, `C15_step_ne_zero`).  The Go operations that can
  panic are the slice / index expressions; each is modelled by a guarded total expression
  and the guard that makes the Go expression safe is stated below.  Whether the Go code
  really never panics is the correspondence run's `fuzz` operation (every entry point under
  `recover`), not a theorem.
-/
import GfsProofs.ParseSem
import GfsGen.Facts
import GfsModel.ExpectedSrc

namespace Gfs.Props.C15
open Gfs Gfs.Spec Gfs.Proofs

/-- IsFrameRange(s) is true exactly when NewFrameSet(s) succeeds — every byte string. -/
theorem C15_isFrameRange (s : Bytes) :
    isFrameRange s = true ↔ ∃ fs, FrameSet.parse s = .ok fs :=
  isFrameRange_iff s

/-- no range ever holds a zero step (so `(v - start) / step` cannot divide by zero) -/
theorem C15_step_ne_zero (s e st : Int) : (mkRng s e st).step ≠ 0 :=
  RngAux.mkRng_step_ne_zero s e st

/-- the template glob `name[len(base) : len(name)-len(ext)]` is within bounds under the guard
    the repaired code tests (D10) -/
theorem C15_glob_slice_in_bounds (base ext name : Bytes)
    (h : base.length + ext.length ≤ name.length) :
    base.length ≤ name.length - ext.length ∧ name.length - ext.length ≤ name.length :=
  ⟨Nat.le_sub_of_add_le h, Nat.sub_le _ _⟩

/-- the look-behind `baseName[len(baseName)-pos]` of the single-frame case is within bounds:
    pos is 2 only when the basename has at least two bytes, else 1 with a non-empty basename -/
theorem C15_lookbehind_in_bounds (base : Bytes) (hne : base ≠ []) :
    let pos := if isSuffixOf ['-'] base ∧ base.length ≥ 2 then 2 else 1
    1 ≤ pos ∧ pos ≤ base.length := by
  have : 0 < base.length := List.length_pos_iff.mpr hne
  simp only
  split <;> omega

/-- the declarations of /repo this property's model and specification were written from are,
    on this run, the ones the model was last aligned with (digest of their comment- and
    layout-insensitive fingerprints, re-extracted by tools/gofacts) -/
theorem C15_source : Gfs.Gen.sourceDigestC15 = Gfs.expectedSourceDigestC15 := rfl

end Gfs.Props.C15
