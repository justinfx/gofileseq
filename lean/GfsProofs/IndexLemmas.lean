/-
  GfsProofs.IndexLemmas — Frame and Index yield the real file path of each frame (C04); the case
  analysis of NewFileSequencePad, and what its single-file branch returns at index 0.
-/
import GfsModel.SeqOps
import GfsProofs.ParseSem
import GfsProofs.SplitLemmas

namespace Gfs.Proofs
open Gfs Gfs.Spec

theorem frameSet_len (fs : FrameSet) (h : WF fs.blocks) : fs.len = fs.frames.length := by
  rw [FrameSet.len, FrameSet.frames, blocks_len _ h, blocks_iter _ h]

theorem frameSet_frame (fs : FrameSet) (h : WF fs.blocks) (i : Int) :
    fs.frame i = valueAt fs.frames i := by
  rw [FrameSet.frame, FrameSet.frames, blocks_value _ h, blocks_iter _ h]

theorem frameInt_eq (s : Seq) (h : s.frameSet.isSome = true) (f : Int) :
    s.frameInt f = framePath s.dir s.base s.ext s.zfill f := by
  obtain ⟨fs, hs⟩ := Option.isSome_iff_exists.mp h
  rw [Seq.frameInt, hs, framePath, zfillInt_eq_spec]

theorem frameInt_none (s : Seq) (h : s.frameSet = none) (f : Int) :
    s.frameInt f = s.dir ++ s.base ++ s.ext := by
  unfold Seq.frameInt
  rw [h]; simp

theorem index_eq (s : Seq) (fs : FrameSet) (h : s.frameSet = some fs) (hwf : WF fs.blocks) (i : Int) :
    s.index i =
      if 0 ≤ i ∧ i < (fs.frames.length : Int)
      then framePath s.dir s.base s.ext s.zfill (fs.frames.getD i.toNat 0) else [] := by
  rw [Seq.index, h]
  simp only [frameSet_frame fs hwf, valueAt]
  by_cases hc : 0 ≤ i ∧ i < (fs.frames.length : Int)
  · rw [if_pos hc, if_pos hc]
    exact frameInt_eq s (by rw [h]; rfl) _
  · rw [if_neg hc, if_neg hc]

theorem index_none (s : Seq) (h : s.frameSet = none) (i : Int) : s.index i = s.str := by
  unfold Seq.index
  rw [h]

theorem paths_none (s : Seq) (h : s.frameSet = none) : s.paths = [s.str] := by
  unfold Seq.paths
  simp [Seq.len, h, index_none s h]

theorem framePath_injective (dir base ext : Bytes) (w a b : Int)
    (h : framePath dir base ext w a = framePath dir base ext w b) : a = b := by
  unfold framePath at h
  have h1 := List.append_cancel_right h
  have h2 := List.append_cancel_left h1
  exact zfillSpec_injective w a b h2

theorem range_map_getD (L : List Int) :
    (List.range L.length).map (fun (i : Nat) => L.getD i 0) = L := by
  apply List.ext_getElem
  · simp
  · intro i h1 h2
    simp [List.getD_eq_getElem?_getD, List.getElem?_eq_getElem h2]

theorem paths_eq (s : Seq) (fs : FrameSet) (h : s.frameSet = some fs) (hwf : WF fs.blocks) :
    s.paths = fs.frames.map (framePath s.dir s.base s.ext s.zfill) := by
  have hlen : s.len.toNat = fs.frames.length := by
    rw [Seq.len, h]
    simp only [frameSet_len fs hwf, Int.toNat_natCast]
  rw [Seq.paths, hlen]
  conv => rhs; rw [← range_map_getD fs.frames]
  rw [List.map_map]
  apply List.map_congr_left
  intro i hi
  have hi' : i < fs.frames.length := List.mem_range.mp hi
  rw [index_eq s fs h hwf, if_pos ⟨by omega, by omega⟩]
  simp

/-- a concrete file path: no pad-token character and no newline -/
def PlainPath (p : Bytes) : Prop :=
  ∀ c ∈ p, c ≠ '#' ∧ c ≠ '@' ∧ c ≠ '%' ∧ c ≠ '$' ∧ c ≠ '<' ∧ c ≠ '\n'

/-- `singleFramePattern` finds a frame token in the path `p`, and it is a negative zero ("-0",
    "-00", …).  The inner `∃` is `NegZero fr` (NumLemmas) written out. -/
def NegZeroFrame (p : Bytes) : Prop :=
  ∃ name fr ext, singleFrame p = some (name, fr, ext) ∧
    ∃ zs, zs ≠ [] ∧ (∀ c ∈ zs, c = '0') ∧ fr = '-' :: zs

/-- The model has the recogniser `-?\d+` twice: `frameAt` (Rx.lean) for the frame number of a file
    name, `takeNum` (FrameSet.lean) for the numbers of a range.  What is proved of one numeral
    (NumLemmas) is proved of `takeNum`. -/
theorem frameAt_eq_takeNum (s : Bytes) : frameAt s = takeNum s := by
  cases s with
  | nil => rfl
  | cons c r =>
    by_cases hc : c = '-'
    · subst hc; rw [takeNum_minus]; rfl
    · rw [takeNum_nosign _ (by simpa using hc)]
      unfold frameAt
      split
      · rename_i heq; cases heq; exact absurd rfl hc
      · rfl

theorem singleFrameAux_sound {acc s name fr ext : Bytes}
    (h : singleFrameAux acc s = some (name, fr, ext)) :
    name ++ fr ++ ext = acc.reverse ++ s ∧ ∃ n, NumText n fr := by
  fun_induction singleFrameAux acc s with
  | case1 => cases h -- end of the string
  | case2 acc c r fr' rest hf hext =>
    -- a frame token starts here and an extension follows it
    cases h
    obtain ⟨h1, h2⟩ := takeNum_sound (frameAt_eq_takeNum _ ▸ hf)
    exact ⟨by rw [List.append_assoc, ← h1], h2⟩
  | case3 | case5 => cases h -- not here, and the name would run over a newline
  | case4 _ _ _ _ _ _ _ _ ih | case6 _ _ _ _ _ ih =>
    -- not here (a token without extension behind it, or no token): one position on
    obtain ⟨h1, h2⟩ := ih h
    exact ⟨by rw [h1, List.reverse_cons, List.append_assoc]; rfl, h2⟩

theorem singleFrame_concat {p name fr ext : Bytes} (h : singleFrame p = some (name, fr, ext)) :
    name ++ fr ++ ext = p ∧ ∃ n, NumText n fr :=
  singleFrameAux_sound h

theorem splitSeq_plain (p : Bytes) (hp : PlainPath p) : splitSeq p = none := by
  have hps : ∀ c ∈ p, isPadStart c = false := fun c hc =>
    let ⟨h1, h2, h3, h4, h5, _⟩ := hp c hc
    isPadStart_eq_false.mpr ⟨h1, h2, h3, h4, h5⟩
  have hf := findPad_append p [] hps []
  rw [List.append_nil] at hf
  rw [splitSeq, contains_eq_false_iff.mpr fun hm => let ⟨_, _, _, _, _, hnl⟩ := hp _ hm; hnl rfl, hf]
  rfl

theorem fallback_index (st : PadStyle) {p dir0 base0 ext0 : Bytes} (h : dir0 ++ base0 ++ ext0 = p) :
    (Seq.setPadding ⟨base0, dir0, ext0, [], 0, none, st⟩ []).index 0 = p := by
  simp [Seq.index, Seq.setPadding, Seq.str, Seq.frameRange, h]

/-- The one numeral `zfillInt` never writes is a negative zero; every other frame token is written
    back as it stood, padded to its own length. -/
theorem token_index (st : PadStyle) {p name fr ext : Bytes} {fs : FrameSet}
    (hsf : singleFrame p = some (name, fr, ext)) (hnz : ¬ NegZeroFrame p)
    (hparse : FrameSet.parse fr = .ok fs) :
    (Seq.setPadding ⟨(pathSplit name).2, (pathSplit name).1, ext, padChars st fr.length, 0, some fs, st⟩
      (padChars st fr.length)).index 0 = p := by
  obtain ⟨hcat, v, hnt⟩ := singleFrame_concat hsf
  have htok : zfillInt v fr.length = fr := numText_zfill hnt fun hz => hnz ⟨name, fr, ext, hsf, hz⟩
  obtain ⟨hfr, hwf⟩ := parse_numeral_ok hnt hparse
  have hframe : fs.frame 0 = .ok v := by
    rw [frameSet_frame fs hwf, hfr]
    rfl
  simp only [Seq.index, Seq.setPadding, hframe, Seq.frameInt,
    padSize_padChars st _ (Int.ofNat_le.mpr (numText_natAbs_lt hnt).1), htok]
  rw [pathSplit_concat, hcat]

/-- The case analysis of `NewFileSequencePad`.  A string that `splitPattern` matches gives the
    sequence of its four captures; any other string with a '#' or '@' is an error; what remains
    is read as a single file: a sequence without frame set whose three components concatenate
    to the input, or the one built from the frame token that `singleFramePattern` finds. -/
theorem seqParse_elim (st : PadStyle) (sq : Bytes) {motive : Except Err Seq → Prop}
    (split : ∀ name rng pad ext, splitSeq sq = some (name, rng, pad, ext) →
      motive (.ok (Seq.setPadding ⟨(pathSplit name).2, (pathSplit name).1, ext, pad, 0,
        (FrameSet.parse rng).toOption, st⟩ pad)))
    (error : splitSeq sq = none → sq.contains '#' ∨ sq.contains '@' → motive (.error .parse))
    (file : ∀ base ext, splitSeq sq = none → ¬ (sq.contains '#' ∨ sq.contains '@') →
      (pathSplit sq).1 ++ base ++ ext = sq →
      motive (.ok (Seq.setPadding ⟨base, (pathSplit sq).1, ext, [], 0, none, st⟩ [])))
    (frame : ∀ name fr ext fs, splitSeq sq = none → ¬ (sq.contains '#' ∨ sq.contains '@') →
      singleFrame sq = some (name, fr, ext) → FrameSet.parse fr = .ok fs →
      motive (.ok (Seq.setPadding ⟨(pathSplit name).2, (pathSplit name).1, ext,
        padChars st fr.length, 0, some fs, st⟩ (padChars st fr.length)))) :
    motive (Seq.parse st sq) := by
  have hfile : ∀ dir0 file0 base0 ext0, splitSeq sq = none → ¬ (sq.contains '#' ∨ sq.contains '@') →
      pathSplit sq = (dir0, file0) →
      (match splitLastDot file0 with | some (b, e) => (b, e) | none => (file0, [])) = (base0, ext0) →
      motive (.ok (Seq.setPadding ⟨base0, dir0, ext0, [], 0, none, st⟩ [])) := by
    intro dir0 file0 base0 ext0 hs hc hps hbe
    have := file base0 ext0 hs hc
    rw [hps, List.append_assoc, lastDot_concat hbe] at this
    have hcat := pathSplit_concat sq
    rw [hps] at hcat
    exact this hcat
  -- the cases are the six exits of `Seq.parse`, top to bottom; the hypotheses come in its order:
  -- `hs`, `hc` the two tests on `sq`, `hps`, `hbe` the two `let`s of the single-file branch
  fun_cases Seq.parse st sq
  case case1 name rng pad ext hs fs dir base hps => -- `splitPattern` matches
    have := split name rng pad ext hs
    rwa [hps] at this
  case case2 hs hc => exact error hs hc -- no match, but a '#' or '@'
  case case3 hs hc dir0 file0 hps base0 ext0 hbe _ => -- a dot file: no directory, no base
    exact hfile _ _ _ _ hs hc hps hbe
  case case4 hs hc dir0 file0 hps base0 ext0 hbe hh name fr ext' hsf fs hfs dir base hps' pad =>
    -- `singleFramePattern` matches and its frame token parses
    have := frame name fr ext' fs hs hc hsf hfs
    rwa [hps'] at this
  case case5 hs hc dir0 file0 hps base0 ext0 hbe _ _ _ _ _ _ _ => -- … matches, the token does not parse
    exact hfile _ _ _ _ hs hc hps hbe
  case case6 hs hc dir0 file0 hps base0 ext0 hbe _ _ => -- no frame token
    exact hfile _ _ _ _ hs hc hps hbe

/-- a text without newline that holds a pad character is split by the sequence pattern, so the
    constructor accepts it -/
theorem parse_of_padChar (st : PadStyle) (s : Bytes) (hnl : s.contains '\n' = false)
    (h : ∃ c ∈ s, c = '#' ∨ c = '@') :
    ∃ n r p e, Seq.parse st s = .ok (Seq.setPadding
      ⟨(pathSplit n).2, (pathSplit n).1, e, p, 0, (FrameSet.parse r).toOption, st⟩ p) := by
  obtain ⟨⟨pre, tok, ext⟩, hr⟩ := findPad_isSome s [] h
  rw [Seq.parse, splitSeq, if_neg (by rw [hnl]; simp), hr]
  exact ⟨_, _, _, _, rfl⟩

theorem parse_style (st : PadStyle) (x : Bytes) (s : Seq) (h : Seq.parse st x = .ok s) : s.style = st := by
  revert h
  refine seqParse_elim (motive := fun r => r = .ok s → s.style = st) st x ?split ?error ?file ?frame
  case split => intro _ _ _ _ _ h; cases h; rfl
  case error => intro _ _ h; cases h
  case file => intro _ _ _ _ _ h; cases h; rfl
  case frame => intro _ _ _ _ _ _ _ _ h; cases h; rfl

end Gfs.Proofs

