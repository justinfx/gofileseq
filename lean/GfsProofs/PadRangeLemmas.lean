/-
  GfsProofs.PadRangeLemmas — PadFrameRange changes nothing but leading zeros (C11).
-/
import GfsModel.Pad
import GfsProofs.ParseSyn

namespace Gfs.Proofs
open Gfs Gfs.Spec

theorem zfillString_of_ge (t : Bytes) (w : Int) (h : (t.length : Int) ≥ w) :
    zfillString t w = t := by
  simp [zfillString, h]

theorem zfillString_length_of_lt (t : Bytes) (w : Int) (h : (t.length : Int) < w) :
    ((zfillString t w).length : Int) = w := by
  unfold zfillString
  simp only []  -- zeta-reduces the `let`s of `zfillString`
  rw [if_neg (by omega)]
  split
  · rename_i r
    simp only [List.length_cons, List.length_append, List.length_replicate] at h ⊢
    omega
  · simp only [List.length_append, List.length_replicate]
    omega

/-- the shape of a zero-filled numeral: the zeros go after the optional sign -/
theorem zfillString_shape (neg : Bool) (ds : Bytes) (hd : ∀ c ∈ ds, isDigit c = true) (w : Int) :
    zfillString ((if neg then ['-'] else []) ++ ds) w =
      (if neg then ['-'] else []) ++
        (List.replicate (w - (((if neg then ['-'] else []) ++ ds).length : Int)).toNat '0' ++ ds) := by
  by_cases hge : ((((if neg then ['-'] else []) ++ ds).length : Nat) : Int) ≥ w
  · rw [zfillString_of_ge _ _ hge]
    rw [Int.toNat_eq_zero.mpr (Int.sub_nonpos_of_le hge)]; simp
  · unfold zfillString
    simp only []
    rw [if_neg hge]
    cases neg
    · simp only [Bool.false_eq_true, if_false, List.nil_append]
      split
      · exact absurd rfl (digit_ne_minus (hd '-' List.mem_cons_self))
      · rfl
    · simp

theorem zfillString_numText {n : Int} {t : Bytes} (w : Int) (h : NumText n t) :
    NumText n (zfillString t w) := by
  obtain ⟨neg, ds, hne, hd, rfl, rfl⟩ := h
  rw [zfillString_shape neg ds hd w]
  refine ⟨neg, _, fun h0 => hne (List.append_eq_nil_iff.mp h0).2, fun c hc => ?_, rfl, ?_⟩
  · rcases List.mem_append.1 hc with hc | hc
    · rw [(List.mem_replicate.1 hc).2]; rfl
    · exact hd c hc
  · rw [digitsToNat_replicate_zero_append]

theorem zfillString_idem (t : Bytes) (w : Int) : zfillString (zfillString t w) w = zfillString t w := by
  by_cases hge : (t.length : Int) ≥ w
  · rw [zfillString_of_ge t w hge, zfillString_of_ge t w hge]
  · apply zfillString_of_ge
    have := zfillString_length_of_lt t w (by omega)
    omega

def padMatch (w : Int) : Match → Match
  | .single a => .single (zfillString a w)
  | .range a b => .range (zfillString a w) (zfillString b w)
  | .complex a b m n => .complex (zfillString a w) (zfillString b w) m n

theorem padPart_eq (w : Int) (part : Bytes) :
    padPart w part = match matchPart part with
      | some m => matchText (padMatch w m)
      | none => part := by
  unfold padPart
  cases matchPart part with
  | none => rfl
  | some m => cases m <;> rfl

theorem padPart_of_none (w : Int) {part : Bytes} (h : matchPart part = none) : padPart w part = part := by
  rw [padPart_eq, h]

theorem padPart_of_some (w : Int) {part : Bytes} {m : Match} (h : matchPart part = some m) :
    padPart w part = matchText (padMatch w m) := by
  rw [padPart_eq, h]

theorem matchOf_padMatch (w : Int) (c : Comp) (m : Match) (h : MatchOf c m) : MatchOf c (padMatch w m) := by
  cases h with
  | single ha => exact .single (zfillString_numText w ha)
  | range ha hb => exact .range (zfillString_numText w ha) (zfillString_numText w hb)
  | stepped ha hb hn hm =>
    exact .stepped (zfillString_numText w ha) (zfillString_numText w hb) hn hm

theorem padMatch_idem (w : Int) (m : Match) : padMatch w (padMatch w m) = padMatch w m := by
  cases m <;> simp [padMatch, zfillString_idem]

theorem padPart_idem (w : Int) (part : Bytes) : padPart w (padPart w part) = padPart w part := by
  cases hm : matchPart part with
  | none => rw [padPart_of_none w hm, padPart_of_none w hm]
  | some m =>
    obtain ⟨-, c, hc⟩ := matchPart_sound hm
    have hc' := matchOf_padMatch w c m hc
    rw [padPart_of_some w hm,
      padPart_of_some w (matchPart_complete hc'), padMatch_idem]

theorem padPart_no_comma (w : Int) (part : Bytes) (h : ',' ∉ part) : ',' ∉ padPart w part := by
  cases hm : matchPart part with
  | none => rw [padPart_of_none w hm]; exact h
  | some m =>
    obtain ⟨-, c, hc⟩ := matchPart_sound hm
    rw [padPart_of_some w hm]
    exact matchText_no_comma (matchOf_padMatch w c m hc)

theorem padFrameRange_small (s : Bytes) (w : Int) (h : w < 2) : padFrameRange s w = s := by
  simp [padFrameRange, h]

theorem padFrameRange_of_ge (s : Bytes) (w : Int) (h : 2 ≤ w) :
    padFrameRange s w = joinWith ',' ((splitOn ',' s).map (padPart w)) := by
  unfold padFrameRange
  rw [if_neg (by omega)]

theorem padFrameRange_parts (s : Bytes) (w : Int) (h : 2 ≤ w) :
    splitOn ',' (padFrameRange s w) = (splitOn ',' s).map (padPart w) := by
  rw [padFrameRange_of_ge s w h]
  apply splitOn_joinWith
  · intro h0
    exact splitOn_ne_nil ',' s (List.map_eq_nil_iff.1 h0)
  · intro p hp
    obtain ⟨q, hq, rfl⟩ := List.mem_map.1 hp
    exact padPart_no_comma w q (splitOn_parts_no_sep ',' s q hq)

theorem compText_padPart (w : Int) (p : Bytes) (c : Comp) :
    CompText c (stripJunk (padPart w p)) ↔ CompText c (stripJunk p) := by
  cases hm : matchPart p with
  | none => rw [padPart_of_none w hm]
  | some m =>
    -- `p` is a text of one component and has no junk; so is the padded part, of the same component
    obtain ⟨rfl, c0, hc0⟩ := matchPart_sound hm
    have hc0' := matchOf_padMatch w c0 m hc0
    rw [padPart_of_some w hm, stripJunk_matchText hc0', stripJunk_matchText hc0,
      compText_matchText_iff hc0', compText_matchText_iff hc0]

theorem rangeText_padFrameRange {cs : List Comp} (hne : cs ≠ []) (s : Bytes) (w : Int) :
    RangeText cs (padFrameRange s w) ↔ RangeText cs s := by
  by_cases hw : w < 2
  · rw [padFrameRange_small s w hw]
  · rw [rangeText_iff hne, rangeText_iff hne, splitOn_stripJunk, splitOn_stripJunk,
      padFrameRange_parts s w (by omega), List.map_map]
    exact ⟨forall2_map_imp fun c p => (compText_padPart w p c).1,
      forall2_map_imp fun c p => (compText_padPart w p c).2⟩

end Gfs.Proofs
