/-
  GfsProofs.ListScan — the scan over the items. It is a fold and never fails (`scan_eq`): the items
  that go to buckets are added one by one with `addFrame`, the others that are not skipped become
  single files, when those are asked for. `addFrame_cases`
  says what one such step does to the bucket list; `Inv` is what the steps keep true of it (every
  bucket holds the tokens of the items of its key, in arrival order), and `fold_paths` that the
  buckets stand for exactly the paths of the items added.
-/
import GfsProofs.ListGroup

namespace Gfs.Proofs
open Gfs Gfs.Spec

/-- "is a numbered sequence": has a frame set and a basename or extension, as whatever comes out
    of a bucket has -/
def isNumbered (s : Seq) : Bool := s.frameSet.isSome && !(s.base.isEmpty && s.ext.isEmpty)

theorem ListAux.optFrameAux_sound (s acc b fr e : Bytes) :
    optFrameAux acc s = some (b, fr, e) →
    b ++ fr ++ e = acc.reverse ++ s ∧ (fr = [] ∨ ∃ n, NumText n fr) := by
  fun_induction optFrameAux acc s with
  | case1 acc =>
    -- the end of the name
    intro h; cases h
    exact ⟨List.append_nil _, Or.inl rfl⟩
  | case2 acc c r tok rest hf =>
    -- a frame here
    intro h; cases h
    obtain ⟨h1, h2⟩ := takeNum_sound (frameAt_eq_takeNum _ ▸ hf)
    exact ⟨by rw [List.append_assoc, ← h1], Or.inr h2⟩
  | case3 | case6 =>
    -- no frame here, the rest is the extension
    intro h; cases h
    exact ⟨by rw [List.append_nil], Or.inl rfl⟩
  | case4 | case7 =>
    -- a line break ends the search
    intro h; cases h
  | case5 _ _ _ _ _ _ _ _ _ ih | case8 _ _ _ _ _ _ ih =>
    -- one position on
    intro h
    obtain ⟨h1, h2⟩ := ih h
    exact ⟨by rw [h1, List.reverse_cons, List.append_assoc]; rfl, h2⟩

theorem optFrame_concat (name b fr e : Bytes) (h : optFrame name = some (b, fr, e)) :
    b ++ fr ++ e = name ∧ (fr = [] ∨ ∃ n, NumText n fr) :=
  ListAux.optFrameAux_sound name [] b fr e h

namespace ListAux

/-- the three captures of the pattern (all empty when it cannot read the name) -/
def parts (it : FileItem) : Bytes × Bytes × Bytes := (optFrame it.name).getD ([], [], [])

/-- the test `ok` of `scanItems`: the pattern reads a frame, and a basename or an extension; the
    item then goes to a bucket -/
def itemOk (it : FileItem) : Bool :=
  (optFrame it.name).isSome && !(parts it).2.1.isEmpty &&
    !((parts it).1.isEmpty && (parts it).2.2.isEmpty)

/-- what `scanItems` appends to `files` for an item that goes to no bucket -/
def itemSeq (st : PadStyle) (it : FileItem) : Seq :=
  if (optFrame it.name).isSome then rebuild st it.dir (parts it).1 (parts it).2.1 [] (parts it).2.2
  else rebuild st it.dir it.name (parts it).2.1 [] []

def hiddenSkip (o : ListOpts) (it : FileItem) : Bool := !o.hidden && isPrefixOf ['.'] it.name

theorem visible_of_not_skip {o : ListOpts} {it : FileItem} (h : ¬ hiddenSkip o it = true) :
    o.hidden = true ∨ isPrefixOf ['.'] it.name = false := by
  cases hh : o.hidden <;> cases hp : isPrefixOf ['.'] it.name <;> simp_all [hiddenSkip]

end ListAux

-- `Order`: the terms in which C05_order and the scan's invariant below speak of the scan.
-- `bkey` / `ikey`: the (directory, basename, extension) key of a bucket / of an item as the pattern
-- reads it; `itok`: the item's frame token; `mkFI`: the record `addFrame` makes of a token;
-- `bucketable`: the item is not skipped as hidden and goes to a bucket.
namespace Order
open ListAux

abbrev Key := Bytes × Bytes × Bytes

def mkFI (tok : Bytes) : FrameInfo := ⟨tok, atoiOr0 tok, frameMinSize tok⟩
def bkey (b : SeqInfo) : Key := (b.dir, b.base, b.ext)
def ikey (it : FileItem) : Key := (it.dir, (parts it).1, (parts it).2.2)
def itok (it : FileItem) : Bytes := (parts it).2.1
def bucketable (o : ListOpts) (it : FileItem) : Bool := !hiddenSkip o it && itemOk it

/-- the frame tokens of the items of one key, in list order -/
def toksFor (o : ListOpts) (k : Key) (items : List FileItem) : List Bytes :=
  (items.filter fun it => bucketable o it && decide (ikey it = k)).map itok

end Order

namespace ListAux
open Order

def singlesOf (o : ListOpts) (items : List FileItem) : List Seq :=
  (items.filter fun it => !hiddenSkip o it && !itemOk it).map (itemSeq o.style)

def addItem (st : PadStyle) (bs : List SeqInfo) (it : FileItem) : List SeqInfo :=
  addFrame st it.dir (parts it).1 (parts it).2.2 (itok it) bs

theorem scan_step (o : ListOpts) (it : FileItem) (rest : List FileItem) (bs : List SeqInfo)
    (files : List Seq) :
    scanItems o none (it :: rest) bs files =
      if hiddenSkip o it then scanItems o none rest bs files
      else if itemOk it then scanItems o none rest (addItem o.style bs it) files
      else if o.single then scanItems o none rest bs (files ++ [itemSeq o.style it])
      else scanItems o none rest bs files := by
  rw [scanItems]
  unfold hiddenSkip itemOk itemSeq addItem itok parts
  dsimp only
  -- the equation holds whatever the captures are
  generalize (optFrame it.name).getD ([], [], []) = p
  obtain ⟨b, fr, e⟩ := p
  cases (optFrame it.name).isSome <;> simp

theorem singlesOf_cons (o : ListOpts) (it : FileItem) (rest : List FileItem) :
    singlesOf o (it :: rest) =
      if (!hiddenSkip o it && !itemOk it) = true then itemSeq o.style it :: singlesOf o rest
      else singlesOf o rest := by
  unfold singlesOf
  rw [List.filter_cons]
  split <;> rfl

theorem scan_eq (o : ListOpts) (items : List FileItem) : ∀ (bs : List SeqInfo) (files : List Seq),
    scanItems o none items bs files =
      .ok ((items.filter (bucketable o)).foldl (addItem o.style) bs,
           files ++ if o.single then singlesOf o items else []) := by
  induction items with
  | nil => intro bs files; simp [scanItems, singlesOf]
  | cons it rest ih =>
    intro bs files
    rw [scan_step, List.filter_cons, singlesOf_cons,
      show bucketable o it = (!hiddenSkip o it && itemOk it) from rfl]
    cases hiddenSkip o it with
    | true => exact ih bs files
    | false =>
      cases itemOk it with
      | true => exact ih _ files
      | false =>
        cases hs : o.single with
        | true =>
          rw [if_neg Bool.false_ne_true, if_neg Bool.false_ne_true, if_pos rfl, ih, hs,
            List.append_assoc]
          rfl
        | false => exact (ih bs files).trans (by rw [hs]; rfl)

def addTok (st : PadStyle) (t : Bytes) (x : SeqInfo) : SeqInfo :=
  if t.length < x.minWidth then
    { x with frames := x.frames ++ [mkFI t], minWidth := t.length, padding := padChars st t.length }
  else { x with frames := x.frames ++ [mkFI t] }

def newBucket (st : PadStyle) (k : Key) (t : Bytes) : SeqInfo :=
  ⟨k.1, k.2.1, k.2.2, [mkFI t], padChars st t.length, t.length⟩

theorem addTok_key (st : PadStyle) (t : Bytes) (x : SeqInfo) : bkey (addTok st t x) = bkey x := by
  unfold addTok; split <;> rfl

theorem addTok_frames (st : PadStyle) (t : Bytes) (x : SeqInfo) :
    (addTok st t x).frames = x.frames ++ [mkFI t] := by
  unfold addTok; split <;> rfl

/-- What `addFrame` does: without a bucket of the key a new one is appended; otherwise the first
    bucket of the key gets the token and nothing else changes. -/
theorem addFrame_cases (st : PadStyle) (d b e t : Bytes) (bs : List SeqInfo) :
    ((d, b, e) ∉ bs.map bkey ∧
      addFrame st d b e t bs = bs ++ [newBucket st (d, b, e) t]) ∨
    ∃ l x r, bs = l ++ x :: r ∧ (d, b, e) ∉ l.map bkey ∧ bkey x = (d, b, e) ∧
      addFrame st d b e t bs = l ++ addTok st t x :: r := by
  induction bs with
  | nil => exact Or.inl ⟨List.not_mem_nil, rfl⟩
  | cons y ys ih =>
    unfold addFrame
    by_cases hk : y.dir = d ∧ y.base = b ∧ y.ext = e
    · rw [if_pos hk]
      obtain ⟨rfl, rfl, rfl⟩ := hk
      exact Or.inr ⟨[], y, ys, rfl, List.not_mem_nil, rfl, rfl⟩
    · rw [if_neg hk]
      have hk' : (d, b, e) ≠ bkey y := fun h => hk (by cases h; exact ⟨rfl, rfl, rfl⟩)
      rcases ih with ⟨hn, he⟩ | ⟨l, x, r, rfl, hl, hx, he⟩
      · exact Or.inl ⟨by simp [hk', hn], by rw [he]; rfl⟩
      · exact Or.inr ⟨y :: l, x, r, rfl, by simp [hk', hl], hx, by rw [he]; rfl⟩

theorem addItem_cases (st : PadStyle) (bs : List SeqInfo) (it : FileItem) :
    (ikey it ∉ bs.map bkey ∧ addItem st bs it = bs ++ [newBucket st (ikey it) (itok it)]) ∨
    ∃ l x r, bs = l ++ x :: r ∧ ikey it ∉ l.map bkey ∧ bkey x = ikey it ∧
      addItem st bs it = l ++ addTok st (itok it) x :: r :=
  addFrame_cases st it.dir (parts it).1 (parts it).2.2 (itok it) bs

theorem toksFor_snoc (o : ListOpts) (k : Key) (pre : List FileItem) (it : FileItem) :
    toksFor o k (pre ++ [it]) =
      toksFor o k pre ++ (if bucketable o it = true ∧ ikey it = k then [itok it] else []) := by
  unfold toksFor
  rw [List.filter_append, List.map_append, List.filter_cons, List.filter_nil]
  simp only [Bool.and_eq_true, decide_eq_true_eq]
  split <;> rfl

theorem mem_toksFor {o : ListOpts} {k : Key} {items : List FileItem} {t : Bytes}
    (h : t ∈ toksFor o k items) :
    ∃ it ∈ items, bucketable o it = true ∧ ikey it = k ∧ itok it = t := by
  unfold toksFor at h
  obtain ⟨it, hit, rfl⟩ := List.mem_map.1 h
  obtain ⟨hm, hp⟩ := List.mem_filter.1 hit
  simp only [Bool.and_eq_true, decide_eq_true_eq] at hp
  exact ⟨it, hm, hp.1, hp.2, rfl⟩

/-- One bucket after the items `pre`: its frames are the tokens of the items of its key, in
    arrival order; its pad characters are those of its width, which one of the tokens has. -/
structure BOk (o : ListOpts) (pre : List FileItem) (b : SeqInfo) : Prop where
  frames : b.frames = (toksFor o (bkey b) pre).map mkFI
  pad : b.padding = padChars o.style b.minWidth
  wit : ∃ t ∈ toksFor o (bkey b) pre, b.minWidth = t.length

/-- The bucket list of the listing scan after the items `pre`: the keys are distinct, every bucket
    is as `BOk` says, every key seen has its bucket. -/
structure Inv (o : ListOpts) (pre : List FileItem) (bs : List SeqInfo) : Prop where
  nodup : (bs.map bkey).Nodup
  each : ∀ b ∈ bs, BOk o pre b
  cover : ∀ it ∈ pre, bucketable o it = true → ikey it ∈ bs.map bkey

theorem BOk.skip {o : ListOpts} {pre : List FileItem} {b : SeqInfo} (h : BOk o pre b)
    (it : FileItem) (hn : ¬ (bucketable o it = true ∧ ikey it = bkey b)) : BOk o (pre ++ [it]) b := by
  have e : toksFor o (bkey b) (pre ++ [it]) = toksFor o (bkey b) pre := by
    rw [toksFor_snoc, if_neg hn, List.append_nil]
  exact ⟨by rw [e]; exact h.frames, h.pad, by rw [e]; exact h.wit⟩

theorem BOk.add {o : ListOpts} {pre : List FileItem} {x : SeqInfo} (h : BOk o pre x)
    (it : FileItem) (hb : bucketable o it = true) (hk : ikey it = bkey x) :
    BOk o (pre ++ [it]) (addTok o.style (itok it) x) := by
  have e : toksFor o (bkey x) (pre ++ [it]) = toksFor o (bkey x) pre ++ [itok it] := by
    rw [toksFor_snoc, if_pos ⟨hb, hk⟩]
  refine ⟨?_, ?_, ?_⟩
  · rw [addTok_key, addTok_frames, e, h.frames, List.map_append]; rfl
  · unfold addTok
    split
    · rfl
    · exact h.pad
  · rw [addTok_key, e]
    unfold addTok
    split
    · exact ⟨itok it, List.mem_append_right _ (List.mem_singleton.2 rfl), rfl⟩
    · obtain ⟨t, ht, hw⟩ := h.wit
      exact ⟨t, List.mem_append_left _ ht, hw⟩

theorem BOk.new {o : ListOpts} {pre : List FileItem} (it : FileItem) (hb : bucketable o it = true)
    (hnone : toksFor o (ikey it) pre = []) :
    BOk o (pre ++ [it]) (newBucket o.style (ikey it) (itok it)) := by
  have e : toksFor o (ikey it) (pre ++ [it]) = [itok it] := by
    rw [toksFor_snoc, if_pos ⟨hb, rfl⟩, hnone]; rfl
  exact ⟨(congrArg (List.map mkFI) e).symm, rfl, itok it, e ▸ List.mem_singleton.2 rfl, rfl⟩

theorem inv_nil (o : ListOpts) : Inv o [] [] :=
  ⟨List.nodup_nil, fun _ hb => (nomatch hb), fun _ hit => (nomatch hit)⟩

theorem Inv.skip {o : ListOpts} {pre : List FileItem} {bs : List SeqInfo} (hI : Inv o pre bs)
    (it : FileItem) (hb : bucketable o it = false) : Inv o (pre ++ [it]) bs := by
  refine ⟨hI.nodup, fun b hbm => (hI.each b hbm).skip it (by simp [hb]), ?_⟩
  intro it' hit' hb'
  rcases List.mem_append.1 hit' with hp | hp
  · exact hI.cover it' hp hb'
  · rw [List.mem_singleton.1 hp, hb] at hb'; cases hb'

theorem Inv.add {o : ListOpts} {pre : List FileItem} {bs : List SeqInfo} (hI : Inv o pre bs)
    (it : FileItem) (hb : bucketable o it = true) : Inv o (pre ++ [it]) (addItem o.style bs it) := by
  have hcov : ∀ {bs' : List SeqInfo}, (∀ k ∈ bs.map bkey, k ∈ bs'.map bkey) → ikey it ∈ bs'.map bkey →
      ∀ it' ∈ pre ++ [it], bucketable o it' = true → ikey it' ∈ bs'.map bkey := by
    intro bs' hsub hit it' hit' hb'
    rcases List.mem_append.1 hit' with hp | hp
    · exact hsub _ (hI.cover it' hp hb')
    · rw [List.mem_singleton.1 hp]; exact hit
  rcases addItem_cases o.style bs it with ⟨hn, he⟩ | ⟨l, x, r, rfl, hl, hx, he⟩
  · -- a new key: no earlier item has it
    rw [he]
    have hnone : toksFor o (ikey it) pre = [] := by
      cases hT : toksFor o (ikey it) pre with
      | nil => rfl
      | cons t0 ts =>
        obtain ⟨it0, hm0, hb0, hk0, _⟩ := mem_toksFor (hT ▸ List.mem_cons_self : t0 ∈ toksFor o (ikey it) pre)
        exact absurd (hk0 ▸ hI.cover it0 hm0 hb0) hn
    have hkeys : (bs ++ [newBucket o.style (ikey it) (itok it)]).map bkey = bs.map bkey ++ [ikey it] :=
      List.map_append
    refine ⟨?_, ?_, hcov (fun k hk => hkeys ▸ List.mem_append_left _ hk)
      (hkeys ▸ List.mem_append_right _ (List.mem_singleton.2 rfl))⟩
    · rw [hkeys]
      exact List.nodup_append.2 ⟨hI.nodup, List.nodup_cons.2 ⟨List.not_mem_nil, List.nodup_nil⟩,
        fun a ha b' hb' hab =>
        hn (List.mem_singleton.1 hb' ▸ hab ▸ ha)⟩
    · intro b hbm
      rcases List.mem_append.1 hbm with hbm | hbm
      · exact (hI.each b hbm).skip it (fun h => hn (h.2 ▸ List.mem_map.2 ⟨b, hbm, rfl⟩))
      · exact List.mem_singleton.1 hbm ▸ BOk.new it hb hnone
  · -- the key has its bucket `x`; the buckets around it have other keys
    rw [he]
    have hkeys : (l ++ addTok o.style (itok it) x :: r).map bkey = (l ++ x :: r).map bkey := by
      rw [List.map_append, List.map_append, List.map_cons, List.map_cons, addTok_key]
    have hnd := hI.nodup
    rw [List.map_append, List.map_cons, List.nodup_append] at hnd
    obtain ⟨_, hxr, hlr⟩ := hnd
    have hr : ikey it ∉ r.map bkey := hx ▸ (List.nodup_cons.1 hxr).1
    refine ⟨hkeys ▸ hI.nodup, ?_, hcov (fun k hk => hkeys ▸ hk)
      (hkeys ▸ List.mem_map.2 ⟨x, List.mem_append_right _ List.mem_cons_self, hx⟩)⟩
    intro b hbm
    rcases List.mem_append.1 hbm with hbm | hbm
    · exact (hI.each b (List.mem_append_left _ hbm)).skip it
        (fun h => hl (h.2 ▸ List.mem_map.2 ⟨b, hbm, rfl⟩))
    · rcases List.mem_cons.1 hbm with rfl | hbm
      · exact (hI.each x (List.mem_append_right _ List.mem_cons_self)).add it hb hx.symm
      · exact (hI.each b (List.mem_append_right _ (List.mem_cons_of_mem _ hbm))).skip it
          (fun h => hr (h.2 ▸ List.mem_map.2 ⟨b, hbm, rfl⟩))

def bucketsOf (o : ListOpts) (items : List FileItem) : List SeqInfo :=
  (items.filter (bucketable o)).foldl (addItem o.style) []

theorem fold_inv {o : ListOpts} (l : List FileItem) : ∀ {pre : List FileItem} {bs : List SeqInfo},
    Inv o pre bs → Inv o (pre ++ l) ((l.filter (bucketable o)).foldl (addItem o.style) bs) := by
  induction l with
  | nil => intro pre bs hI; rw [List.append_nil]; exact hI
  | cons it rest ih =>
    intro pre bs hI
    rw [List.filter_cons, List.append_cons]
    cases hb : bucketable o it with
    | true => exact ih (hI.add it hb)
    | false => exact ih (hI.skip it hb)

theorem inv_bucketsOf (o : ListOpts) (items : List FileItem) : Inv o items (bucketsOf o items) :=
  fold_inv items (inv_nil o)

theorem findInItems_eq (items : List FileItem) (o : ListOpts) :
    findInItems items o none =
      .ok (((bucketsOf o items).map (bucketSeqs o.style)).flatten ++
        if o.single then singlesOf o items else []) := by
  unfold findInItems
  rw [scan_eq]
  cases o.single <;> rfl

theorem bucketPaths_snoc (b b' : SeqInfo) (f : FrameInfo) (h1 : b'.dir = b.dir)
    (h2 : b'.base = b.base) (h3 : b'.ext = b.ext) (h4 : b'.frames = b.frames ++ [f]) :
    bucketPaths b' = bucketPaths b ++ [b.dir ++ b.base ++ f.frame ++ b.ext] := by
  simp [bucketPaths, h1, h2, h3, h4]

theorem bucketPaths_addTok (st : PadStyle) (t : Bytes) (x : SeqInfo) :
    bucketPaths (addTok st t x) = bucketPaths x ++ [x.dir ++ x.base ++ t ++ x.ext] := by
  unfold addTok
  split <;> exact bucketPaths_snoc x _ (mkFI t) rfl rfl rfl rfl

theorem parts_concat (it : FileItem) (h : (optFrame it.name).isSome = true) :
    (parts it).1 ++ (parts it).2.1 ++ (parts it).2.2 = it.name := by
  cases hm : optFrame it.name with
  | none => rw [hm] at h; simp at h
  | some t =>
    obtain ⟨b, fr, e⟩ := t
    have := (optFrame_concat it.name b fr e hm).1
    simpa [parts, hm] using this

theorem itemOk_facts (it : FileItem) (h : itemOk it = true) :
    (parts it).2.1 ≠ [] ∧ ¬ ((parts it).1 = [] ∧ (parts it).2.2 = []) ∧
    it.dir ++ (parts it).1 ++ (parts it).2.1 ++ (parts it).2.2 = it.dir ++ it.name := by
  simp only [itemOk, Bool.and_eq_true, Bool.not_eq_eq_eq_not, Bool.not_true] at h
  obtain ⟨⟨h1, h2⟩, h3⟩ := h
  refine ⟨?_, ?_, ?_⟩
  · intro e; rw [e] at h2; simp at h2
  · rintro ⟨e1, e2⟩; rw [e1, e2] at h3; simp at h3
  · rw [← parts_concat it h1]; simp

theorem perm_snoc_inner {α : Type} (A X R : List α) (p : α) :
    (A ++ (X ++ [p] ++ R)).Perm (A ++ (X ++ R) ++ [p]) := by
  rw [List.append_assoc X, List.append_assoc A, List.append_assoc X]
  exact (List.perm_append_comm.append_left X).append_left A

theorem addItem_paths (st : PadStyle) (bs : List SeqInfo) (it : FileItem) (hok : itemOk it = true) :
    ((addItem st bs it).flatMap bucketPaths).Perm (bs.flatMap bucketPaths ++ [it.dir ++ it.name]) := by
  rw [← (itemOk_facts it hok).2.2]
  rcases addItem_cases st bs it with ⟨_, he⟩ | ⟨l, x, r, rfl, _, hx, he⟩
  · rw [he, List.flatMap_append]
    exact List.Perm.of_eq (by simp [newBucket, bucketPaths, mkFI, itok, ikey])
  · simp only [bkey, ikey, Prod.mk.injEq] at hx
    rw [he, List.flatMap_append, List.flatMap_cons, bucketPaths_addTok, hx.1, hx.2.1, hx.2.2,
      List.flatMap_append, List.flatMap_cons]
    exact perm_snoc_inner _ _ _ _

theorem fold_paths (st : PadStyle) : ∀ (l : List FileItem) (bs : List SeqInfo),
    (∀ it ∈ l, itemOk it = true) →
    ((l.foldl (addItem st) bs).flatMap bucketPaths).Perm
      (bs.flatMap bucketPaths ++ l.map (fun it => it.dir ++ it.name))
  | [], bs, _ => by simp
  | it :: rest, bs, h => by
    rw [List.foldl_cons, List.map_cons]
    refine (fold_paths st rest _ (fun x hx => h x (List.mem_cons_of_mem _ hx))).trans ?_
    refine ((addItem_paths st bs it (h it List.mem_cons_self)).append_right _).trans ?_
    rw [List.append_assoc]
    rfl

def ItemTame (it : FileItem) : Prop := (parts it).2.1 = [] ∨ Tok (parts it).2.1

theorem itemSeq_facts (st : PadStyle) (it : FileItem) (ht : ItemTame it) (h : itemOk it = false) :
    (itemSeq st it).paths = [it.dir ++ it.name] ∧ isNumbered (itemSeq st it) = false := by
  unfold itemSeq
  cases hm : optFrame it.name with
  | none =>
    -- the pattern cannot read the name: it is kept whole, without a frame
    have hp : parts it = ([], [], []) := by unfold parts; rw [hm]; rfl
    obtain ⟨h1, h2⟩ := rebuild_none st it.dir it.name []
    rw [if_neg (show ¬ (none : Option (Bytes × Bytes × Bytes)).isSome = true from Bool.false_ne_true), hp]
    exact ⟨by rw [h1, List.append_nil], by unfold isNumbered; rw [h2]; rfl⟩
  | some t =>
    have hcat := parts_concat it (by rw [hm]; rfl)
    rw [if_pos (show (some t).isSome = true from rfl)]
    by_cases hfr : (parts it).2.1 = []
    · rw [hfr] at hcat ⊢
      obtain ⟨h1, h2⟩ := rebuild_none st it.dir (parts it).1 (parts it).2.2
      exact ⟨by rw [h1, ← hcat, List.append_nil, List.append_assoc],
        by unfold isNumbered; rw [h2]; rfl⟩
    · -- a frame, but neither basename nor extension: the name is the (tame) token
      have hbe : (parts it).1 = [] ∧ (parts it).2.2 = [] := by
        unfold itemOk at h
        rw [hm, List.isEmpty_eq_false_iff.2 hfr] at h
        simpa [List.isEmpty_iff] using h
      rw [hbe.1, hbe.2, List.nil_append, List.append_nil] at hcat
      have htok : Tok (parts it).2.1 := ht.resolve_left hfr
      obtain ⟨fs, hp, hfs⟩ := parse_tok htok
      have := rebuild_some st it.dir [] [] (tok_pos htok) (Or.inr ⟨rfl, rfl⟩) hp
      rw [hbe.1, hbe.2]
      refine ⟨?_, by unfold isNumbered; rw [this.1, (rebuild_key ..).2.1, (rebuild_key ..).2.2]; rfl⟩
      rw [this.2, hfs, List.map_singleton, tok_zfill_self htok, hcat, List.append_nil,
        List.append_nil]

theorem Inv.bwf {o : ListOpts} {items : List FileItem} {bs : List SeqInfo} (hI : Inv o items bs)
    (ht : ∀ it ∈ items, bucketable o it = true → ItemTame it) : ∀ b ∈ bs, BWF o.style b := by
  intro b hb
  have hB := hI.each b hb
  have htok : ∀ t ∈ toksFor o (bkey b) items, Tok t ∧ ¬ (b.base = [] ∧ b.ext = []) := by
    intro t ht'
    obtain ⟨it, hit, hbk, hk, rfl⟩ := mem_toksFor ht'
    obtain ⟨hne, hkey, _⟩ := itemOk_facts it (Bool.and_eq_true _ _ ▸ hbk).2
    simp only [ikey, bkey, Prod.mk.injEq] at hk
    exact ⟨(ht it hit hbk).resolve_left hne, hk.2.1 ▸ hk.2.2 ▸ hkey⟩
  obtain ⟨t, ht', hw⟩ := hB.wit
  have hm : mkFI t ∈ b.frames := hB.frames ▸ List.mem_map.2 ⟨t, ht', rfl⟩
  refine ⟨List.ne_nil_of_mem hm, ?_, hB.pad, ⟨_, hm, hw⟩, (htok t ht').2⟩
  intro f hf
  rw [hB.frames] at hf
  obtain ⟨u, hu, rfl⟩ := List.mem_map.1 hf
  exact ⟨(htok u hu).1, rfl, rfl⟩

end ListAux
end Gfs.Proofs
