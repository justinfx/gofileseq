/-
  GfsProofs.CppScan — the two passes of the port's directory scan against the Go scan, on the
  directories of C19: every bucket has two or more frames of one digit width, every other kept name
  is a frame-less file. C19_scan and C19_find put the passes together into statements about
  `Cpp.scan`, `Cpp.find` and the Go entry points.

  First pass (`Cpp.scanEntries`, `Cpp.scanT` against `scanItems`): the port's bucket list is the Go
  one seen through `toC` (numbers only, pad characters of the minimum width), because the two
  `addFrame` agree under `toC` and every directory entry is classified alike: `scan_sim` (listing)
  and `scanT_sim` (lookup) walk the entries with both scans. Second pass (`Cpp.bucketsOut` against
  `bucketSeqs`): bucket by bucket (`cpp_bucketSeq_eq`, `Order.bucketSeqs_uniform`); `pick_eq` is the
  lookup's choice among the results. Where two styles appear, `st` is the Go scan's (the caller's)
  and `st'` the port's.
-/
import GfsProofs.CppLemmas
import GfsProofs.FindComplete

namespace Gfs.Proofs
open Gfs Gfs.Spec

theorem setDirname_sep (s : Seq) (d : Bytes) (h : d.isEmpty = true ∨ isSuffixOf ['/'] d = true) :
    Cpp.setDirname s d = { s with dir := d } := by
  rw [Cpp.setDirname, if_pos (by simpa using h)]

theorem setExt_dot (s : Seq) (e : Bytes) (h : e = [] ∨ isPrefixOf ['.'] e = true) :
    Cpp.setExt s e = { s with ext := e } := by
  rw [Cpp.setExt, if_pos (by rcases h with rfl | h <;> simp [*])]

theorem cpp_bucketSeq_eq (st : PadStyle) (dir base frange pad ext : Bytes) (fs : FrameSet)
    (hdir : dir.isEmpty = true ∨ isSuffixOf ['/'] dir = true)
    (hext : ext = [] ∨ isPrefixOf ['.'] ext = true)
    (hpad : pad ≠ [] ∧ ∀ c ∈ pad, c = '#' ∨ c = '@')
    (hnl : (dir ++ base ++ frange ++ pad ++ ext).contains '\n' = false)
    (hp : FrameSet.parse frange = .ok fs) :
    Cpp.bucketSeq st dir base frange pad ext = .ok (rebuild st dir base frange pad ext) := by
  obtain ⟨c, cs, rfl⟩ := List.exists_cons_of_ne_nil hpad.1
  obtain ⟨n, r, p, e, hs⟩ := parse_of_padChar st _ hnl ⟨c, by simp, hpad.2 c List.mem_cons_self⟩
  rw [Cpp.bucketSeq, hs, ListAux.rebuild_eq]
  simp only [List.isEmpty_cons, Bool.false_eq_true, false_and, if_false, setDirname_sep _ _ hdir,
    setExt_dot _ _ hext, Seq.setBasename, Seq.setPadding, Seq.setFrameRange, hp, Except.toOption]

theorem cpp_singleSeq_frameless (st : PadStyle) (path dir base ext : Bytes) (s0 : Seq)
    (hdir : dir.isEmpty = true ∨ isSuffixOf ['/'] dir = true)
    (hext : ext = [] ∨ isPrefixOf ['.'] ext = true)
    (hp : Seq.parse st path = .ok s0) :
    Cpp.singleSeq st path dir base [] ext = .ok (rebuild st dir base [] [] ext) := by
  rw [Cpp.singleSeq, hp, ListAux.rebuild_eq]
  simp only [List.isEmpty_nil, if_true, setDirname_sep _ _ hdir, setExt_dot _ _ hext, Seq.setBasename,
    Seq.setPadding, Seq.setFrameSet, parse_style st path s0 hp, parse_nil, Except.toOption,
    Bool.not_true, Bool.false_eq_true, and_false, if_false]

end Gfs.Proofs

-- `CppScan`: the two passes over a directory, and the predicates (`kept`, `SingleOk`, `BucketDom`,
-- `BucketsDom`) on which C19 states them; what is above is about one sequence, whatever the scan
namespace Gfs.Proofs.CppScan
open Gfs Gfs.Spec Gfs.Proofs

/-- the port's bucket for a Go bucket: the numbers only, the pad characters in the port's style -/
def toC (st : PadStyle) (g : SeqInfo) : Cpp.CInfo :=
  ⟨g.base, g.ext, g.frames.map (·.num), g.minWidth, padChars st g.minWidth⟩

/-- what the first pass over one directory keeps true of a bucket: it is under that directory and
    its minimum width is the width of one of its frames -/
def GInv (root : Bytes) (g : SeqInfo) : Prop :=
  g.dir = root ∧ ∃ f ∈ g.frames, f.frame.length = g.minWidth

theorem addTok_ginv (st : PadStyle) (root tk : Bytes) (g : SeqInfo) (h : GInv root g) :
    GInv root (ListAux.addTok st tk g) := by
  obtain ⟨hd, f, hf, hw⟩ := h
  unfold ListAux.addTok
  split
  · exact ⟨hd, _, List.mem_append.2 (Or.inr (List.mem_singleton.2 rfl)), rfl⟩
  · exact ⟨hd, f, List.mem_append.2 (Or.inl hf), hw⟩

theorem addFrame_ginv (st : PadStyle) (root b e tk : Bytes) (gs : List SeqInfo)
    (h : ∀ g ∈ gs, GInv root g) : ∀ g ∈ addFrame st root b e tk gs, GInv root g := by
  intro g hg
  rcases ListAux.addFrame_cases st root b e tk gs with ⟨_, hadd⟩ | ⟨l, x, r, rfl, _, _, hadd⟩
  · rw [hadd] at hg
    rcases List.mem_append.1 hg with hg | hg
    · exact h g hg
    · rw [List.mem_singleton.1 hg]
      exact ⟨rfl, _, List.mem_singleton.2 rfl, rfl⟩
  · rw [hadd] at hg
    rcases List.mem_append.1 hg with hg | hg
    · exact h g (List.mem_append.2 (Or.inl hg))
    · rcases List.mem_cons.1 hg with rfl | hg
      · exact addTok_ginv st root tk x (h x (List.mem_append.2 (Or.inr List.mem_cons_self)))
      · exact h g (List.mem_append.2 (Or.inr (List.mem_cons_of_mem _ hg)))

theorem addFrame_toC (st st' : PadStyle) (root b e tk : Bytes) :
    ∀ gs : List SeqInfo, (∀ g ∈ gs, g.dir = root) →
      Cpp.addFrame st' b e tk (gs.map (toC st')) = (addFrame st root b e tk gs).map (toC st')
  | [], _ => rfl
  | g :: gs, h => by
    rw [List.map_cons, Cpp.addFrame]
    by_cases hk : (toC st' g).base = b ∧ (toC st' g).ext = e
    · rw [if_pos hk, addFrame, if_pos ⟨h g List.mem_cons_self, hk⟩, List.map_cons]
      congr 1
      by_cases hl : tk.length < g.minWidth <;> simp [toC, hl, Cpp.num, atoiOr0]
    · rw [if_neg hk, addFrame, if_neg (fun hk' => hk hk'.2), List.map_cons,
        addFrame_toC st st' root b e tk gs (fun x hx => h x (List.mem_cons_of_mem _ hx))]

def kept (e : Entry) : Bool := e.kind = .file ∨ e.kind = .linkFile

/-- the four tests with which both first passes of the port begin, on an entry that is no dangling
    link: what gets through is a visible file or link to a file, as in the Go scan -/
theorem entry_tests {α : Type} (o : ListOpts) (e : Entry) (hnd : e.kind ≠ .dangling)
    (skip err body : α) :
    (if e.kind = .dir then skip
     else if !o.hidden ∧ isPrefixOf ['.'] e.name then skip
     else if e.kind = .dangling then err
     else if e.kind = .linkDir then skip
     else body) =
    if kept e = true then (if !o.hidden ∧ isPrefixOf ['.'] e.name then skip else body) else skip := by
  unfold kept
  cases hk : e.kind <;> simp [hk] at hnd ⊢

theorem items_cons (d : Bytes) (e : Entry) (rest : List Entry) :
    ((e :: rest).filter fun e => e.kind = .file ∨ e.kind = .linkFile).map
        (fun e => (⟨d, e.name⟩ : FileItem)) =
      if kept e = true then
        ⟨d, e.name⟩ :: (rest.filter fun e => e.kind = .file ∨ e.kind = .linkFile).map fun e => ⟨d, e.name⟩
      else (rest.filter fun e => e.kind = .file ∨ e.kind = .linkFile).map fun e => ⟨d, e.name⟩ := by
  rw [List.filter_cons]
  unfold kept
  split <;> rfl

/-- the digits test shared by the two frame-number tests: the whole of `t` is read as digits
    (`x`: whatever is reported as the token) -/
theorem digits_iff (t x : Bytes) :
    ((if (t.takeWhile isDigit).isEmpty then (none : Option (Bytes × Bytes))
      else some (x, t.dropWhile isDigit)).map (·.2) = some []) ↔
    ((!t.isEmpty) = true ∧ t.all isDigit = true) := by
  by_cases hall : t.all isDigit = true
  · have h1 := List.takeWhile_append_of_pos (l₂ := []) (List.all_eq_true.1 hall)
    have h2 := List.dropWhile_append_of_pos (l₂ := []) (List.all_eq_true.1 hall)
    rw [List.append_nil] at h1 h2
    rw [h1, h2]
    cases t <;> simp [hall]
  · have hd : t.dropWhile isDigit ≠ [] := fun h => hall (by
      have := List.takeWhile_append_dropWhile (p := isDigit) (l := t)
      rw [h, List.append_nil] at this
      rw [← this]
      exact List.all_takeWhile)
    split <;> simp [hall, hd]

theorem isFrameTok_iff (r : Bytes) :
    Cpp.isFrameTok r = true ↔ ((frameAt r).map (·.2) = some [] ∧ (atoi r).isSome = true) := by
  unfold Cpp.isFrameTok frameAt
  split <;> simp only [digits_iff, Bool.and_eq_true]

theorem scanT_cons (o : ListOpts) (t : Seq) (e : Entry) (rest : List Entry) (cs : List Cpp.CInfo)
    (hnd : e.kind ≠ .dangling) :
    Cpp.scanT o t (e :: rest) cs =
      Cpp.scanT o t rest
        (match (if kept e = true then FindComplete.candTok o t e.name else none) with
          | some tk => Cpp.addFrame o.style t.base t.ext tk cs
          | none => cs) := by
  rw [Cpp.scanT, entry_tests o e hnd, FindComplete.candTok]
  cases kept e
  · rfl
  · rw [if_pos rfl, if_pos rfl]
    by_cases hhid : (!o.hidden ∧ isPrefixOf ['.'] e.name)
    · rw [if_pos hhid, if_pos hhid]
    · rw [if_neg hhid, if_neg hhid]
      by_cases hglob : (isPrefixOf t.base e.name ∧ isSuffixOf t.ext e.name ∧
          t.base.length + t.ext.length ≤ e.name.length)
      · simp only [if_pos hglob, isFrameTok_iff]
        split <;> rfl
      · simp only [if_neg hglob]

theorem scanT_sim (st st' : PadStyle) (hidden : Bool) (t : Seq) (d : Bytes) :
    ∀ (entries : List Entry) (gs : List SeqInfo) (files : List Seq),
      (∀ e ∈ entries, e.kind ≠ .dangling) → (∀ g ∈ gs, GInv t.dir g) →
      ∃ gs', scanItems ⟨false, hidden, st⟩ (some t)
            ((entries.filter fun e => e.kind = .file ∨ e.kind = .linkFile).map fun e => ⟨d, e.name⟩)
            gs files = .ok (gs', files) ∧
        Cpp.scanT ⟨false, hidden, st'⟩ t entries (gs.map (toC st')) = .ok (gs'.map (toC st')) ∧
        ∀ g ∈ gs', GInv t.dir g
  | [], gs, files, _, hinv => ⟨gs, rfl, rfl, hinv⟩
  | e :: rest, gs, files, hnd, hinv => by
    have ih := fun gs => scanT_sim st st' hidden t d rest gs files
      (fun x hx => hnd x (List.mem_cons_of_mem _ hx))
    rw [scanT_cons _ t e rest _ (hnd e List.mem_cons_self), items_cons]
    cases kept e
    · exact ih gs hinv
    · rw [if_pos rfl, if_pos rfl, FindComplete.scanItems_tmpl_cons,
        -- which names are candidates does not depend on the style
        show FindComplete.candTok ⟨false, hidden, st'⟩ t e.name =
          FindComplete.candTok ⟨false, hidden, st⟩ t e.name from rfl]
      cases FindComplete.candTok ⟨false, hidden, st⟩ t e.name with
      | none => exact ih gs hinv
      | some tk =>
        dsimp only
        rw [addFrame_toC st st' t.dir _ _ tk gs fun g hg => (hinv g hg).1]
        exact ih _ (addFrame_ginv st t.dir _ _ tk gs hinv)

def seqParses (st : PadStyle) (p : Bytes) : Bool :=
  match Seq.parse st p with | .ok _ => true | .error _ => false

def rangeParses (r : Bytes) : Bool :=
  match FrameSet.parse r with | .ok _ => true | .error _ => false

theorem seqParses_ok {st : PadStyle} {p : Bytes} (h : seqParses st p = true) :
    ∃ s, Seq.parse st p = .ok s := by
  unfold seqParses at h
  cases hq : Seq.parse st p with
  | ok s => exact ⟨s, rfl⟩
  | error _ => rw [hq] at h; cases h

theorem rangeParses_ok {r : Bytes} (h : rangeParses r = true) : ∃ fs, FrameSet.parse r = .ok fs := by
  unfold rangeParses at h
  cases hq : FrameSet.parse r with
  | ok fs => exact ⟨fs, rfl⟩
  | error _ => rw [hq] at h; cases h

/-- what a kept, visible name must be when it is not a numbered member of a bucket: the pattern
    reads it, it has no frame number, its extension starts with a dot, and the port's constructor
    accepts the path -/
def SingleOk (o : ListOpts) (root name : Bytes) : Prop :=
  let m := optFrame name
  let p := m.getD ([], [], [])
  (m.isSome ∧ !p.2.1.isEmpty ∧ !(p.1.isEmpty ∧ p.2.2.isEmpty)) ∨ o.single = false ∨
  (m.isSome = true ∧ p.2.1 = [] ∧ (p.2.2 = [] ∨ isPrefixOf ['.'] p.2.2 = true) ∧
    seqParses o.style (root ++ name) = true)

instance (o : ListOpts) (root name : Bytes) : Decidable (SingleOk o root name) := by
  unfold SingleOk; exact inferInstance

open ListAux in
/-- in the shape of the Go step `ListAux.scan_step`, so that `scan_sim` can walk both -/
theorem scanEntries_cons (o : ListOpts) (root : Bytes) (e : Entry) (rest : List Entry)
    (cs : List Cpp.CInfo) (files : List Seq) (hnd : e.kind ≠ .dangling) :
    Cpp.scanEntries o root (e :: rest) cs files =
      if kept e = false then Cpp.scanEntries o root rest cs files
      else if hiddenSkip o ⟨root, e.name⟩ = true then Cpp.scanEntries o root rest cs files
      else if itemOk ⟨root, e.name⟩ = true then
        Cpp.scanEntries o root rest
          (Cpp.addFrame o.style (parts ⟨root, e.name⟩).1 (parts ⟨root, e.name⟩).2.2
            (parts ⟨root, e.name⟩).2.1 cs) files
      else if o.single = true then
        match Cpp.singleSeq o.style (root ++ e.name) root (parts ⟨root, e.name⟩).1
            (parts ⟨root, e.name⟩).2.1 (parts ⟨root, e.name⟩).2.2 with
        | .error err => .error err
        | .ok s => Cpp.scanEntries o root rest cs (files ++ [s])
      else Cpp.scanEntries o root rest cs files := by
  rw [Cpp.scanEntries, entry_tests o e hnd]
  cases kept e
  · rfl
  · rw [if_pos rfl, if_neg (Bool.noConfusion : ¬ true = false)]
    by_cases hhid : (!o.hidden ∧ isPrefixOf ['.'] e.name)
    · rw [if_pos hhid, if_pos (by simpa [hiddenSkip] using hhid)]
    · rw [if_neg hhid, if_neg (by simpa [hiddenSkip] using hhid)]
      have hp : parts ⟨root, e.name⟩ = (optFrame e.name).getD ([], [], []) := rfl
      rcases hq : (optFrame e.name).getD ([], [], []) with ⟨b, fr, x⟩
      simp only [itemOk, hp, hq, Bool.and_eq_true, Bool.not_eq_true', Bool.decide_and,
        Bool.decide_eq_true, and_assoc]
      congr

open ListAux in
theorem singleSeq_itemSeq (o : ListOpts) (root name : Bytes)
    (hroot : root.isEmpty = true ∨ isSuffixOf ['/'] root = true)
    (hso : SingleOk o root name) (hok : ¬ itemOk ⟨root, name⟩ = true) (hsi : o.single = true) :
    Cpp.singleSeq o.style (root ++ name) root (parts ⟨root, name⟩).1 (parts ⟨root, name⟩).2.1
      (parts ⟨root, name⟩).2.2 = .ok (itemSeq o.style ⟨root, name⟩) := by
  rcases hso with h | h | ⟨hsome, hfr, hext, hps⟩
  · exact absurd (by simpa [itemOk, parts, and_assoc] using h) hok
  · rw [hsi] at h; cases h
  · obtain ⟨s0, hp⟩ := seqParses_ok hps
    rw [itemSeq, if_pos hsome, show (parts ⟨root, name⟩).2.1 = [] from hfr]
    exact cpp_singleSeq_frameless o.style (root ++ name) root _ _ s0 hroot hext hp

open ListAux in
theorem scan_sim (o : ListOpts) (root : Bytes)
    (hroot : root.isEmpty = true ∨ isSuffixOf ['/'] root = true) :
    ∀ (entries : List Entry) (gs : List SeqInfo) (files : List Seq),
      (∀ e ∈ entries, e.kind ≠ .dangling) →
      (∀ e ∈ entries, kept e = true → (o.hidden = true ∨ isPrefixOf ['.'] e.name = false) →
          SingleOk o root e.name) →
      (∀ g ∈ gs, GInv root g) →
      ∃ gs' files',
        scanItems o none ((entries.filter fun e => e.kind = .file ∨ e.kind = .linkFile).map
            fun e => ⟨root, e.name⟩) gs files = .ok (gs', files') ∧
        Cpp.scanEntries o root entries (gs.map (toC o.style)) files = .ok (gs'.map (toC o.style), files') ∧
        (∀ g ∈ gs', GInv root g) ∧ (o.single = false → files' = files)
  | [], gs, files, _, _, hinv =>
    ⟨gs, files, by rw [List.filter_nil, List.map_nil, scanItems], by rw [Cpp.scanEntries], hinv, fun _ => rfl⟩
  | e :: rest, gs, files, hnd, hs, hinv => by
    have ih := fun gs files => scan_sim o root hroot rest gs files
      (fun x hx => hnd x (List.mem_cons_of_mem _ hx)) (fun x hx => hs x (List.mem_cons_of_mem _ hx))
    rw [scanEntries_cons o root e rest _ files (hnd e List.mem_cons_self), items_cons]
    cases hk : kept e
    · rw [if_neg Bool.noConfusion, if_pos rfl]
      exact ih gs files hinv
    · rw [if_pos rfl, if_neg Bool.noConfusion, scan_step]
      by_cases hsk : hiddenSkip o ⟨root, e.name⟩ = true
      · rw [if_pos hsk, if_pos hsk]
        exact ih gs files hinv
      · rw [if_neg hsk, if_neg hsk]
        by_cases hok : itemOk ⟨root, e.name⟩ = true
        · rw [if_pos hok, if_pos hok, addFrame_toC o.style o.style root _ _ _ gs (fun g hg => (hinv g hg).1)]
          exact ih _ files (addFrame_ginv o.style root _ _ _ gs hinv)
        · rw [if_neg hok, if_neg hok]
          by_cases hsi : o.single = true
          · rw [if_pos hsi, if_pos hsi, singleSeq_itemSeq o root e.name hroot
              (hs e List.mem_cons_self hk (ListAux.visible_of_not_skip hsk)) hok hsi]
            obtain ⟨gs', files', h1, h2, h3, _⟩ := ih gs (files ++ [itemSeq o.style ⟨root, e.name⟩]) hinv
            exact ⟨gs', files', h1, h2, h3, fun h => by rw [hsi] at h; cases h⟩
          · rw [if_neg hsi, if_neg hsi]
            exact ih gs files hinv

def width0 (g : SeqInfo) : Nat := (g.frames.head?.map (·.frame.length)).getD 0

/-- the buckets of the property: two or more frames of one digit width, a dotted or empty
    extension, no newline, and a range text that parses -/
def BucketDom (g : SeqInfo) : Prop :=
  2 ≤ g.frames.length ∧ (1 ≤ width0 g ∧ ∀ f ∈ g.frames, f.frame.length = width0 g) ∧
  (g.ext = [] ∨ isPrefixOf ['.'] g.ext = true) ∧
  (g.dir ++ g.base ++ framesToFrameRange (g.frames.map (·.num)) true 0 ++ g.ext).contains '\n' = false ∧
  rangeParses (framesToFrameRange (g.frames.map (·.num)) true 0) = true

instance (g : SeqInfo) : Decidable (BucketDom g) := by
  unfold BucketDom; exact inferInstance

def BucketsDom : Except Err (List SeqInfo × List Seq) → Prop
  | .ok (gs, _) => ∀ g ∈ gs, BucketDom g
  | .error _ => True

instance : (r : Except Err (List SeqInfo × List Seq)) → Decidable (BucketsDom r)
  | .ok (gs, _) => by unfold BucketsDom; exact inferInstance
  | .error _ => isTrue trivial

/-- what both sides make of a bucket of the domain, in style `st`: `rebuild` of the components
    with the pad characters of the common width -/
def seqOf (st : PadStyle) (g : SeqInfo) : Seq :=
  rebuild st g.dir g.base (framesToFrameRange (g.frames.map (·.num)) true 0) (padChars st (width0 g)) g.ext

theorem bucketOut_multi (st : PadStyle) (root : Bytes) (b : Cpp.CInfo) (h : 2 ≤ b.frames.length) :
    Cpp.bucketOut st root b =
      Cpp.bucketSeq st root b.base (framesToFrameRange b.frames true 0) b.padding b.ext := by
  unfold Cpp.bucketOut
  split
  · rename_i f hf
    rw [hf] at h
    exact absurd h (Nat.not_succ_le_self 1)
  · rfl

theorem bucket_out (st st' : PadStyle) (root : Bytes)
    (hroot : root.isEmpty = true ∨ isSuffixOf ['/'] root = true)
    (g : SeqInfo) (hi : GInv root g) (hd : BucketDom g) :
    Cpp.bucketOut st' root (toC st' g) = .ok (seqOf st' g) ∧ bucketSeqs st g = [seqOf st g] := by
  obtain ⟨rfl, f0, hf0, hf0w⟩ := hi
  obtain ⟨hlen, ⟨_, hw⟩, hext, hnl0, hrp⟩ := hd
  obtain ⟨fs, hparse⟩ := rangeParses_ok hrp
  refine ⟨?_, Order.bucketSeqs_uniform st g _ hlen hw⟩
  -- the port pads to the minimum width, which one of the frames has: it is the common width
  have hmin : g.minWidth = width0 g := hf0w ▸ hw f0 hf0
  have hnl : (g.dir ++ g.base ++ framesToFrameRange (g.frames.map (·.num)) true 0 ++
      padChars st' (width0 g) ++ g.ext).contains '\n' = false := by
    simp only [List.contains_eq_mem, List.mem_append, decide_eq_false_iff_not, not_or] at hnl0 ⊢
    refine ⟨⟨hnl0.1, fun hmem => ?_⟩, hnl0.2⟩
    rcases padChars_chars st' (width0 g) _ hmem with h | h <;> cases h
  rw [bucketOut_multi st' g.dir (toC st' g) (by rw [toC, List.length_map]; exact hlen)]
  simp only [toC, hmin]
  exact cpp_bucketSeq_eq st' g.dir g.base _ (padChars st' (width0 g)) g.ext fs hroot hext
    ⟨padChars_ne_nil st' _, padChars_chars st' _⟩ hnl hparse

theorem buckets_out (st st' : PadStyle) (root : Bytes)
    (hroot : root.isEmpty = true ∨ isSuffixOf ['/'] root = true) :
    ∀ gs : List SeqInfo, (∀ g ∈ gs, GInv root g) → (∀ g ∈ gs, BucketDom g) →
      Cpp.bucketsOut st' root (gs.map (toC st')) = .ok (gs.map (seqOf st')) ∧
      (gs.map (bucketSeqs st)).flatten = gs.map (seqOf st)
  | [], _, _ => ⟨rfl, rfl⟩
  | g :: gs, hi, hd => by
    obtain ⟨hs, hg⟩ := bucket_out st st' root hroot g (hi g List.mem_cons_self) (hd g List.mem_cons_self)
    obtain ⟨ih1, ih2⟩ := buckets_out st st' root hroot gs
      (fun x hx => hi x (List.mem_cons_of_mem _ hx)) (fun x hx => hd x (List.mem_cons_of_mem _ hx))
    refine ⟨?_, ?_⟩
    · rw [List.map_cons, Cpp.bucketsOut, hs, ih1]
      rfl
    · rw [List.map_cons, List.flatten_cons, hg, ih2]
      rfl

/-- switched to the caller's style, the sequence of a bucket no longer depends on the style it was
    built in: the port's default one or, in the Go library, the caller's -/
theorem seqOf_style (st st' : PadStyle) (g : SeqInfo) (hd : BucketDom g) :
    (seqOf st' g).setPaddingStyle st = (seqOf st g).setPaddingStyle st := by
  have hz : ∀ s : PadStyle, padSize s (padChars s (width0 g)) = width0 g :=
    fun s => padSize_padChars s _ (by have := hd.2.1.1; omega)
  simp only [seqOf, rebuild_setPaddingStyle, hz]

theorem seqOf_key (st : PadStyle) (g : SeqInfo) :
    (seqOf st g).base = g.base ∧ (seqOf st g).ext = g.ext :=
  (ListAux.rebuild_key st _ _ _ _ _).2

theorem pick_eq (st st' : PadStyle) (b e : Bytes) (gs : List SeqInfo) (h : ∀ g ∈ gs, BucketDom g) :
    (((gs.map (seqOf st')).find? fun s => s.base = b ∧ s.ext = e).map fun s => s.setPaddingStyle st) =
    ((((gs.map (seqOf st)).filter fun s => s.base = b ∧ s.ext = e).map
        fun s => s.setPaddingStyle st)).head? := by
  have hkey : ∀ s : PadStyle, ((fun x : Seq => decide (x.base = b ∧ x.ext = e)) ∘ seqOf s) =
      fun g => decide (g.base = b ∧ g.ext = e) :=
    fun s => funext fun g => by rw [Function.comp, (seqOf_key s g).1, (seqOf_key s g).2]
  rw [List.head?_map, List.head?_filter, List.find?_map, List.find?_map, hkey, hkey]
  cases hf : gs.find? fun g => decide (g.base = b ∧ g.ext = e) with
  | none => rfl
  | some g => exact congrArg some (seqOf_style st st' g (h g (List.mem_of_find?_eq_some hf)))

end Gfs.Proofs.CppScan
