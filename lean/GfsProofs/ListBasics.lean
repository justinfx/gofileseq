/-
  GfsProofs.ListBasics — facts about lists that say nothing of the model and that several of the
  libraries use.
-/

namespace Gfs.Proofs

theorem list_snoc_induction {α : Type} {P : List α → Prop} (nil : P [])
    (snoc : ∀ l a, P l → P (l ++ [a])) : ∀ l, P l := by
  have h : ∀ l : List α, P l.reverse := by
    intro l
    induction l with
    | nil => exact nil
    | cons a l ih => rw [List.reverse_cons]; exact snoc _ _ ih
  intro l
  have := h l.reverse
  rwa [List.reverse_reverse] at this

theorem head?_append_ne_nil {α : Type} (l l' : List α) (h : l ≠ []) :
    (l ++ l').head? = l.head? := by
  cases l with
  | nil => exact absurd rfl h
  | cons a l => rfl

theorem mem_takeWhile_pred {α : Type} (p : α → Bool) (l : List α) :
    ∀ c ∈ l.takeWhile p, p c = true :=
  List.all_eq_true.mp List.all_takeWhile

theorem takeWhile_dropWhile_stop {α : Type} (p : α → Bool) (a b : List α) (ha : ∀ c ∈ a, p c = true)
    (hb : ∀ c ∈ b.head?, p c = false) :
    (a ++ b).takeWhile p = a ∧ (a ++ b).dropWhile p = b := by
  rw [List.takeWhile_append_of_pos ha, List.dropWhile_append_of_pos ha]
  cases b with
  | nil => simp
  | cons c r => simp [hb c rfl]

theorem contains_eq_false_iff {α : Type} [BEq α] [LawfulBEq α] {l : List α} {x : α} :
    l.contains x = false ↔ x ∉ l := by
  rw [List.contains_eq_mem, decide_eq_false_iff_not]

theorem perm_flatMap_left {α β : Type} (l : List α) (f g : α → List β)
    (h : ∀ a ∈ l, (f a).Perm (g a)) : (l.flatMap f).Perm (l.flatMap g) := by
  induction l with
  | nil => exact List.Perm.refl _
  | cons a l ih =>
    rw [List.flatMap_cons, List.flatMap_cons]
    exact List.Perm.append (h a (by simp)) (ih (fun x hx => h x (by simp [hx])))

theorem sublist_flatMap_of_mem {α β : Type} (f : α → List β) (l : List α) (a : α) (h : a ∈ l) :
    (f a).Sublist (l.flatMap f) := by
  rw [List.flatMap_def]
  exact List.sublist_flatten_of_mem (List.mem_map.mpr ⟨a, h, rfl⟩)

end Gfs.Proofs
