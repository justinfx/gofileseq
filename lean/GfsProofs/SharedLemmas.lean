/-
  GfsProofs.SharedLemmas — read-only threads are schedule-independent (C16).
-/
import GfsModel.Shared

namespace Gfs.Proofs
open Gfs.Shared

def ReadOnly (ts : List Thread) : Prop := ∀ t ∈ ts, ∀ a ∈ t.todo, a.isWrite = false

theorem stepThread_readonly (m : Mem) (t : Thread) (h : ∀ a ∈ t.todo, a.isWrite = false) :
    (stepThread m t).1 = m ∧ alone m (stepThread m t).2 = alone m t ∧
    (∀ a ∈ (stepThread m t).2.todo, a.isWrite = false) := by
  obtain ⟨todo, seen⟩ := t
  match todo, h with
  | [], h => exact ⟨rfl, rfl, h⟩
  | .read v :: rest, h =>
    exact ⟨rfl, by simp [stepThread, alone, List.append_assoc], fun a ha => h a (List.mem_cons_of_mem _ ha)⟩
  | .write v x :: rest, h => exact nomatch h _ (List.mem_cons_self ..)

/-- One scheduler step of a system without writes changes neither the memory nor what each thread
    reads when run alone from where it stands: a thread that has read a value has moved it from
    what `alone` predicts to what it has seen. -/
theorem step_readonly (s : Sys) (i : Nat) (hro : ReadOnly s.threads) :
    (step s i).mem = s.mem ∧ ReadOnly (step s i).threads ∧
    (step s i).threads.map (alone s.mem) = s.threads.map (alone s.mem) := by
  unfold step
  cases hi : s.threads[i]? with
  | none => exact ⟨rfl, hro, rfl⟩
  | some t =>
    obtain ⟨hlt, rfl⟩ := List.getElem?_eq_some_iff.mp hi
    obtain ⟨h1, h2, h3⟩ := stepThread_readonly s.mem _ (hro _ (List.getElem_mem hlt))
    refine ⟨h1, fun u hu => ?_, ?_⟩
    · rcases List.mem_or_eq_of_mem_set hu with hu | rfl
      · exact hro u hu
      · exact h3
    · rw [List.map_set, h2, ← List.getElem_map (alone s.mem) (h := by simpa using hlt),
        List.set_getElem_self]

theorem run_readonly (s : Sys) (sched : List Nat) (hro : ReadOnly s.threads) :
    (run s sched).mem = s.mem ∧ ReadOnly (run s sched).threads ∧
    (run s sched).threads.map (alone s.mem) = s.threads.map (alone s.mem) :=
  List.foldlRecOn sched step
    (motive := fun s' => s'.mem = s.mem ∧ ReadOnly s'.threads ∧
      s'.threads.map (alone s.mem) = s.threads.map (alone s.mem))
    ⟨rfl, hro, rfl⟩ fun s' ⟨a1, a2, a3⟩ i _ =>
      have ⟨b1, b2, b3⟩ := step_readonly s' i a2
      ⟨b1.trans a1, b2, (a1 ▸ b3).trans a3⟩

end Gfs.Proofs
