/-
  GfsProofs.Prog — finite arithmetic progressions as lists, and the recursive enumerations
  `up` / `down` / `enum` of the specification in that form.
-/
import GfsSpec.Enum

namespace Gfs.Proofs
open Gfs.Spec

def prog (a d : Int) (n : Nat) : List Int := (List.range n).map fun (k : Nat) => a + d * (k : Int)

@[simp] theorem prog_zero (a d : Int) : prog a d 0 = [] := rfl

@[simp] theorem prog_one (a d : Int) : prog a d 1 = [a] := by simp [prog]

@[simp] theorem length_prog (a d : Int) (n : Nat) : (prog a d n).length = n := by
  simp [prog]

theorem mem_prog {a d : Int} {n : Nat} {v : Int} :
    v ∈ prog a d n ↔ ∃ k : Nat, k < n ∧ v = a + d * (k : Int) := by
  simp only [prog, List.mem_map, List.mem_range]
  exact ⟨fun ⟨k, hk, e⟩ => ⟨k, hk, e.symm⟩, fun ⟨k, hk, e⟩ => ⟨k, hk, e.symm⟩⟩

theorem getElem?_prog (a d : Int) {n k : Nat} (hk : k < n) :
    (prog a d n)[k]? = some (a + d * (k : Int)) := by
  simp [prog, List.getElem?_range hk]

theorem getElem_prog (a d : Int) {n k : Nat} (hk : k < (prog a d n).length) :
    (prog a d n)[k] = a + d * (k : Int) := by
  simp [prog]

theorem prog_succ (a d : Int) (n : Nat) : prog a d (n + 1) = prog a d n ++ [a + d * (n : Int)] := by
  simp [prog, List.range_succ]

theorem prog_cons (a d : Int) (n : Nat) : prog a d (n + 1) = a :: prog (a + d) d n := by
  simp only [prog, List.range_succ_eq_map, List.map_cons, List.map_map]
  congr 1
  · simp
  · apply List.map_congr_left
    intro k _
    simp only [Function.comp, Nat.succ_eq_add_one, Int.natCast_add, Int.mul_add]
    omega

/-- one more term examined: what the loops of `AppendUnique` and `normalized` add to the values
    they keep -/
theorem filter_not_prog_succ (q : Int → Bool) (a d : Int) (n : Nat) :
    (prog a d (n + 1)).filter (fun v => !q v) =
      (prog a d n).filter (fun v => !q v) ++
        (if q (a + d * (n : Int)) = true then [] else [a + d * (n : Int)]) := by
  rw [prog_succ, List.filter_append]
  congr 1
  by_cases h : q (a + d * (n : Int)) = true <;> simp [h]

/-- a loop over `a, a+d, …` keeps an invariant that counts the terms examined -/
theorem foldl_prog_inv {σ : Type} (I : Nat → σ → Prop) (f : σ → Int → σ) (a d : Int) {s0 : σ}
    (h0 : I 0 s0) (hstep : ∀ n s, I n s → I (n + 1) (f s (a + d * (n : Int)))) (n : Nat) :
    I n ((prog a d n).foldl f s0) := by
  induction n with
  | zero => exact h0
  | succ n ih =>
    rw [prog_succ, List.foldl_append]
    exact hstep n _ ih

theorem prog_of_le_one (a d d' : Int) {n : Nat} (h : n ≤ 1) : prog a d n = prog a d' n := by
  obtain rfl | rfl : n = 0 ∨ n = 1 := by omega
  · rfl
  · rw [prog_one, prog_one]

theorem head?_prog (a d : Int) (n : Nat) : (prog a d (n + 1)).head? = some a := by
  rw [prog_cons]; rfl

theorem getLast?_prog (a d : Int) (n : Nat) :
    (prog a d (n + 1)).getLast? = some (a + d * (n : Int)) := by
  rw [prog_succ]; simp

theorem prog_inj {a d : Int} (hd : d ≠ 0) {j k : Int} (h : a + d * j = a + d * k) : j = k :=
  Int.eq_of_mul_eq_mul_left hd (by omega)

theorem nodup_prog (a : Int) {d : Int} (hd : d ≠ 0) (n : Nat) : (prog a d n).Nodup := by
  unfold List.Nodup prog
  rw [List.pairwise_map]
  apply List.pairwise_lt_range.imp
  intro j k hjk h
  have := prog_inj hd h
  omega

theorem idxOf?_prog (a : Int) {d : Int} (hd : d ≠ 0) {n k : Nat} (hk : k < n) :
    (prog a d n).idxOf? (a + d * (k : Int)) = some k := by
  rw [List.idxOf?_eq_some_iff]
  refine ⟨by simpa using hk, getElem_prog a d _, ?_⟩
  intro j hj h
  rw [getElem_prog] at h
  have := prog_inj hd h
  omega

theorem pairwise_lt_prog (a : Int) {d : Int} (hd : 0 < d) (n : Nat) :
    (prog a d n).Pairwise (· < ·) := by
  unfold prog
  rw [List.pairwise_map]
  apply List.pairwise_lt_range.imp
  intro j k hjk
  have := (Int.mul_lt_mul_left (b := (j : Int)) (c := (k : Int)) hd).mpr (by omega)
  omega

/-- `n` whole steps `d` lead from `a` towards `b`, and one more would pass it -/
def StepsFit (a b d : Int) (n : Nat) : Prop :=
  (0 < d ∧ a + d * (n : Int) ≤ b ∧ b < a + d * (n : Int) + d) ∨
  (d < 0 ∧ a + d * (n : Int) + d < b ∧ b ≤ a + d * (n : Int))

theorem up_eq_prog {a b m : Int} (hm : 0 < m) (n : Nat) (h1 : a + m * (n : Int) ≤ b)
    (h2 : b < a + m * (n : Int) + m) : up a b m = prog a m (n + 1) := by
  induction n generalizing a with
  | zero =>
    rw [Int.natCast_zero, Int.mul_zero, Int.add_zero] at h1 h2
    rw [up, dif_pos ⟨h1, hm⟩, up, dif_neg (fun h => by omega), prog_one]
  | succ n ih =>
    have hmn : 0 ≤ m * (n : Int) := Int.mul_nonneg (Int.le_of_lt hm) (Int.natCast_nonneg n)
    rw [Int.natCast_add, Int.mul_add, Int.natCast_one, Int.mul_one] at h1 h2
    rw [up, dif_pos ⟨by omega, hm⟩, ih (by omega) (by omega), ← prog_cons]

theorem down_eq_prog {a b m : Int} (hm : 0 < m) (n : Nat) (h1 : b ≤ a - m * (n : Int))
    (h2 : a - m * (n : Int) - m < b) : down a b m = prog a (-m) (n + 1) := by
  induction n generalizing a with
  | zero =>
    rw [Int.natCast_zero, Int.mul_zero, Int.sub_zero] at h1 h2
    rw [down, dif_pos ⟨h1, hm⟩, down, dif_neg (fun h => by omega), prog_one]
  | succ n ih =>
    have hmn : 0 ≤ m * (n : Int) := Int.mul_nonneg (Int.le_of_lt hm) (Int.natCast_nonneg n)
    rw [Int.natCast_add, Int.mul_add, Int.natCast_one, Int.mul_one] at h1 h2
    rw [down, dif_pos ⟨by omega, hm⟩, ih (by omega) (by omega), Int.sub_eq_add_neg, ← prog_cons]

theorem enum_self (n m : Int) (hm : 0 < m) : enum n n m = [n] := by
  unfold enum
  rw [if_pos (Int.le_refl n), up, dif_pos ⟨Int.le_refl n, hm⟩, up, dif_neg (by omega)]

/-- `enum` takes `up` for `a = b`, where both ways give `[a]` -/
theorem enum_of_ge {a b m : Int} (h : b ≤ a) (hm : 0 < m) : enum a b m = down a b m := by
  by_cases hab : a ≤ b
  · obtain rfl : a = b := Int.le_antisymm hab h
    rw [enum_self a m hm, down, dif_pos ⟨h, hm⟩, down, dif_neg (by omega)]
  · rw [enum, if_neg hab]

theorem enum_eq_prog {a b d : Int} {n : Nat} (h : StepsFit a b d n) :
    enum a b d.natAbs = prog a d (n + 1) := by
  rcases h with ⟨hd, h1, h2⟩ | ⟨hd, h1, h2⟩
  · have hdn : 0 ≤ d * (n : Int) := Int.mul_nonneg (Int.le_of_lt hd) (Int.natCast_nonneg n)
    rw [enum, if_pos (by omega), Int.natAbs_of_nonneg (Int.le_of_lt hd), up_eq_prog hd n h1 h2]
  · have hdn : d * (n : Int) ≤ 0 :=
      Int.mul_nonpos_of_nonpos_of_nonneg (Int.le_of_lt hd) (Int.natCast_nonneg n)
    rw [Int.ofNat_natAbs_of_nonpos (Int.le_of_lt hd), enum_of_ge (by omega) (by omega),
      down_eq_prog (by omega) n (by rw [Int.neg_mul]; omega) (by rw [Int.neg_mul]; omega), Int.neg_neg]

theorem stepsFit_self (a : Int) {d : Int} (hd : d ≠ 0) (n : Nat) :
    StepsFit a (a + d * (n : Int)) d n := by
  rcases Int.lt_or_gt_of_ne hd with h | h
  · exact .inr ⟨h, by omega, Int.le_refl _⟩
  · exact .inl ⟨h, Int.le_refl _, Int.lt_add_of_pos_right _ h⟩

theorem up_one_add (a : Int) (N : Nat) : up a (a + (N : Int)) 1 = prog a 1 (N + 1) :=
  up_eq_prog Int.one_pos N (by rw [Int.one_mul]; exact Int.le_refl _) (by rw [Int.one_mul]; omega)

theorem up_one_eq_prog (a b : Int) : up a b 1 = prog a 1 (b + 1 - a).toNat := by
  by_cases h : a ≤ b
  · obtain ⟨N, hN⟩ := Int.eq_ofNat_of_zero_le (Int.sub_nonneg_of_le h)
    obtain rfl : b = a + (N : Int) := by omega
    rw [up_one_add, show a + (N : Int) + 1 - a = ((N + 1 : Nat) : Int) by omega, Int.toNat_natCast]
  · rw [up, dif_neg (fun hc => h hc.1), Int.toNat_of_nonpos (by omega), prog_zero]

theorem mem_up_one (a b v : Int) : v ∈ up a b 1 ↔ a ≤ v ∧ v ≤ b := by
  rw [up_one_eq_prog, mem_prog]
  simp only [Int.lt_toNat, Int.one_mul]
  constructor
  · rintro ⟨k, hk, rfl⟩; omega
  · rintro ⟨h1, h2⟩
    obtain ⟨k, hk⟩ := Int.eq_ofNat_of_zero_le (Int.sub_nonneg_of_le h1)
    exact ⟨k, by omega, by omega⟩

theorem up_one_asc (a b : Int) : (up a b 1).Pairwise (· < ·) := by
  rw [up_one_eq_prog]; exact pairwise_lt_prog a Int.one_pos _

end Gfs.Proofs
