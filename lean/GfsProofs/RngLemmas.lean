/-
  GfsProofs.RngLemmas — a well-signed InclusiveRange behaves like its enumeration.
-/
import GfsProofs.RngAux
import GfsProofs.ListViews

namespace Gfs.Proofs
open Gfs Gfs.Spec

theorem valueAt_prog (a d : Int) (n : Nat) (i : Int) :
    valueAt (prog a d n) i = if 0 ≤ i ∧ i < (n : Int) then .ok (a + d * i) else .error .index := by
  unfold valueAt
  rw [length_prog]
  by_cases h : 0 ≤ i ∧ i < (n : Int)
  · rw [if_pos h, if_pos h, List.getD_eq_getElem?_getD, getElem?_prog a d (k := i.toNat) (by omega),
      Int.toNat_of_nonneg h.1]
    rfl
  · rw [if_neg h, if_neg h]

theorem rng_iter (r : Rng) (h : WellSigned r) : r.iter = rngEnum r := by
  rw [RngAux.rngEnum_eq_prog r h, Rng.iter, RngAux.len_eq r h]
  apply List.map_congr_left
  intro k hk
  rw [RngAux.value_of_wellSigned r h k,
    if_pos ⟨Int.natCast_nonneg k, Int.ofNat_lt.mpr (List.mem_range.mp hk)⟩]

theorem rng_len (r : Rng) (h : WellSigned r) : r.len = (rngEnum r).length := by
  rw [RngAux.rngEnum_eq_prog r h, RngAux.len_eq r h, length_prog]; rfl

theorem rng_ne_nil (r : Rng) (h : WellSigned r) : rngEnum r ≠ [] := by
  rw [RngAux.rngEnum_eq_prog r h, prog_cons]; exact List.cons_ne_nil _ _

theorem rng_head (r : Rng) (h : WellSigned r) : (rngEnum r).head? = some r.start := by
  rw [RngAux.rngEnum_eq_prog r h, head?_prog]

theorem rng_fin (r : Rng) (h : WellSigned r) : (rngEnum r).getLast? = some r.fin := by
  rw [RngAux.rngEnum_eq_prog r h, RngAux.fin_eq r h, getLast?_prog]

theorem rng_nodup (r : Rng) (h : WellSigned r) : (rngEnum r).Nodup := by
  rw [RngAux.rngEnum_eq_prog r h]; exact nodup_prog _ (RngAux.step_ne_zero h) _

theorem enum_nodup (a b m : Int) : (enum a b m).Nodup := by
  by_cases hm : 0 < m
  · rw [RngAux.enum_eq_prog_cDir a b hm]
    exact nodup_prog _ (by have := (RngAux.cDir_mul a b hm).1; omega) _
  · unfold enum
    split
    · rw [up, dif_neg (by omega)]; simp
    · rw [down, dif_neg (by omega)]; simp

theorem rng_contains (r : Rng) (h : WellSigned r) (v : Int) :
    r.contains v = true ↔ v ∈ rngEnum r := by
  rw [Rng.contains, beq_iff_eq, RngAux.closest_eq_self_iff_mem r h v]

theorem rng_value (r : Rng) (h : WellSigned r) (i : Int) :
    r.value i = valueAt (rngEnum r) i := by
  rw [RngAux.rngEnum_eq_prog r h, valueAt_prog, RngAux.value_of_wellSigned r h i]

theorem rng_index (r : Rng) (h : WellSigned r) (v : Int) :
    r.index v = idxOf (rngEnum r) v := by
  have hst := RngAux.step_ne_zero h
  unfold Rng.index idxOf
  by_cases hv : v ∈ rngEnum r
  · rw [if_neg (Decidable.not_not.mpr ((RngAux.closest_eq_self_iff_mem r h v).mpr hv))]
    obtain ⟨k, hk, rfl⟩ := (RngAux.mem_enum r h v).mp hv
    rw [RngAux.rngEnum_eq_prog r h, idxOf?_prog _ hst (by omega)]
    rw [Int.add_comm r.start, Int.add_sub_cancel, Int.mul_tdiv_cancel_left _ hst, if_neg (by omega)]
  · rw [if_pos (fun hc => hv ((RngAux.closest_eq_self_iff_mem r h v).mp hc)), List.idxOf?_eq_none_iff.mpr hv]

theorem rng_mem_between_fin (r : Rng) (h : WellSigned r) (v : Int) (hv : v ∈ rngEnum r) :
    (r.start ≤ v ∧ v ≤ r.fin) ∨ (r.fin ≤ v ∧ v ≤ r.start) := by
  obtain ⟨k, hk, rfl⟩ := (RngAux.mem_enum r h v).mp hv
  rw [RngAux.fin_eq r h]
  exact (RngAux.between_prog (RngAux.step_ne_zero h) r.start (RngAux.K r) k).mpr (by omega)

theorem start_mem (r : Rng) (h : WellSigned r) : r.start ∈ rngEnum r :=
  (RngAux.mem_enum r h _).mpr ⟨0, by omega, by simp⟩

theorem fin_mem (r : Rng) (h : WellSigned r) : r.fin ∈ rngEnum r :=
  (RngAux.mem_enum r h _).mpr ⟨RngAux.K r, by omega, RngAux.fin_eq r h⟩

/-- enumerating up to `End()` instead of the stored stop gives the same values -/
theorem enum_fin (r : Rng) (h : WellSigned r) :
    enum r.start r.fin r.step.natAbs = rngEnum r := by
  have hst := RngAux.step_ne_zero h
  rw [RngAux.rngEnum_eq_prog r h, RngAux.fin_eq r h]
  exact enum_eq_prog (stepsFit_self r.start hst (RngAux.K r))

theorem enum_fin_start (r : Rng) (h : WellSigned r) (hf : r.fin = r.start) :
    rngEnum r = [r.start] := by
  have hfe := RngAux.fin_eq r h
  have hst := RngAux.step_ne_zero h
  have hK : RngAux.K r = 0 := by
    rcases Int.mul_eq_zero.mp (show r.step * (RngAux.K r : Int) = 0 by omega) with h1 | h1
    · exact absurd h1 hst
    · omega
  rw [RngAux.rngEnum_eq_prog r h, hK, prog_one]

theorem rng_mem_bounds (r : Rng) (h : WellSigned r) (v : Int) (hv : v ∈ rngEnum r) :
    (r.start ≤ v ∧ v ≤ r.stop) ∨ (r.stop ≤ v ∧ v ≤ r.start) := by
  have := rng_mem_between_fin r h v hv
  have := RngAux.fin_bounds r h
  omega

theorem rng_min (r : Rng) (h : WellSigned r) : r.min = listMin (rngEnum r) := by
  refine (listMin_eq _ _ ?_ fun v hv => ?_).symm
  · unfold Rng.min; split
    · exact start_mem r h
    · exact fin_mem r h
  · have := rng_mem_between_fin r h v hv
    unfold Rng.min; split <;> omega

theorem rng_max (r : Rng) (h : WellSigned r) : r.max = listMax (rngEnum r) := by
  refine (listMax_eq _ _ ?_ fun v hv => ?_).symm
  · unfold Rng.max; split
    · exact start_mem r h
    · exact fin_mem r h
  · have := rng_mem_between_fin r h v hv
    unfold Rng.max; split <;> omega

end Gfs.Proofs
