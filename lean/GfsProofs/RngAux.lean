/-
  GfsProofs.RngAux — what the accessors of a well-signed InclusiveRange compute, in terms of
  the number `K` of whole steps between start and stop.  Both directions are treated at
  once: the tests of the Go code are read as "between the two ends, whichever way round",
  and its truncating division is kept as it is.
-/
import GfsSpec.WF
import GfsSpec.Closed
import GfsProofs.Prog

namespace Gfs.Proofs.RngAux
open Gfs Gfs.Spec

/-- `x ↦ a + d * x` with `d ≠ 0` keeps "between", whichever way round -/
theorem between_affine {d : Int} (hd : d ≠ 0) (a x y z : Int) :
    ((a + d * x ≤ a + d * y ∧ a + d * y ≤ a + d * z) ∨ (a + d * z ≤ a + d * y ∧ a + d * y ≤ a + d * x)) ↔
      ((x ≤ y ∧ y ≤ z) ∨ (z ≤ y ∧ y ≤ x)) := by
  rcases Int.lt_or_gt_of_ne hd with h | h
  · simp only [Int.add_le_add_iff_left, Int.mul_le_mul_left_of_neg h]
    exact Or.comm.trans (or_congr And.comm And.comm)
  · simp only [Int.add_le_add_iff_left, Int.mul_le_mul_left h]

theorem between_prog {d : Int} (hd : d ≠ 0) (a : Int) (n : Nat) (q : Int) :
    ((a ≤ a + d * q ∧ a + d * q ≤ a + d * (n : Int)) ∨
      (a + d * (n : Int) ≤ a + d * q ∧ a + d * q ≤ a)) ↔ 0 ≤ q ∧ q ≤ (n : Int) := by
  have h := between_affine hd a 0 q n
  rw [Int.mul_zero, Int.add_zero] at h
  rw [h]
  omega

theorem step_ne_zero {r : Rng} (h : WellSigned r) : r.step ≠ 0 := by
  unfold WellSigned at h; omega

/-- number of whole steps that fit between start and stop -/
def K (r : Rng) : Nat := (r.stop - r.start).natAbs / r.step.natAbs

theorem tdiv_eq_K (r : Rng) (h : WellSigned r) : (r.stop - r.start).tdiv r.step = K r := by
  have h1 : ((r.stop - r.start).tdiv r.step).natAbs = K r := Int.natAbs_tdiv _ _
  have h2 : 0 ≤ (r.stop - r.start).tdiv r.step := by
    rcases h with ⟨hse, hd⟩ | ⟨hse, hd⟩
    · exact Int.tdiv_nonneg (Int.sub_nonneg_of_le hse) (Int.le_of_lt hd)
    · exact Int.tdiv_nonneg_of_nonpos_of_nonpos (Int.sub_nonpos_of_le hse) (Int.le_of_lt hd)
  rw [← h1, Int.natAbs_of_nonneg h2]

theorem stepsFit_K (r : Rng) (h : WellSigned r) : StepsFit r.start r.stop r.step (K r) := by
  have ht := tdiv_eq_K r h
  rcases h with ⟨hse, hd⟩ | ⟨hse, hd⟩
  · have h1 := Int.mul_tdiv_self_le (x := r.stop - r.start) (k := r.step) (Int.sub_nonneg_of_le hse)
    have h2 := Int.lt_mul_tdiv_self_add (x := r.stop - r.start) hd
    rw [ht] at h1 h2
    exact Or.inl ⟨hd, by omega, by omega⟩
  · have h1 := Int.mul_tdiv_self_le (x := -(r.stop - r.start)) (k := -r.step)
      (Int.neg_nonneg_of_nonpos (Int.sub_nonpos_of_le hse))
    have h2 := Int.lt_mul_tdiv_self_add (x := -(r.stop - r.start)) (Int.neg_pos_of_neg hd)
    rw [Int.neg_tdiv_neg, ht, Int.neg_mul] at h1 h2
    exact Or.inr ⟨hd, by omega, by omega⟩

theorem wellSigned_of_stepsFit {a b d : Int} {n : Nat} (h : StepsFit a b d n) :
    WellSigned ⟨a, b, d⟩ := by
  show (a ≤ b ∧ 0 < d) ∨ (b ≤ a ∧ d < 0)
  rcases h with ⟨hd, h1, _⟩ | ⟨hd, _, h1⟩
  · have := Int.mul_nonneg (Int.le_of_lt hd) (Int.natCast_nonneg n)
    exact Or.inl ⟨by omega, hd⟩
  · have := Int.mul_nonpos_of_nonpos_of_nonneg (Int.le_of_lt hd) (Int.natCast_nonneg n)
    exact Or.inr ⟨by omega, hd⟩

theorem rngEnum_eq_prog (r : Rng) (h : WellSigned r) : rngEnum r = prog r.start r.step (K r + 1) :=
  enum_eq_prog (stepsFit_K r h)

theorem mkRng_of_ne {s e st : Int} (h : st ≠ 0) : mkRng s e st = ⟨s, e, st⟩ := by
  rw [mkRng, if_neg h]

theorem mkRng_step_ne_zero (s e st : Int) : (mkRng s e st).step ≠ 0 := by
  unfold mkRng; simp only; split <;> (try split) <;> omega

/-! The step of size `m` from `a` towards `b` is `cDir a b * m`; the Go code and the statements
    spell it in several ways. -/

theorem ite_le_eq_cDir (a b n : Int) : (if a ≤ b then n else -n) = cDir a b * n := by
  unfold cDir
  split
  · rw [Int.one_mul]
  · rw [Int.neg_mul, Int.one_mul]

theorem ite_gt_eq_cDir (a b : Int) : (if a > b then (-1 : Int) else 1) = cDir a b := by
  unfold cDir
  by_cases h : a ≤ b
  · rw [if_pos h, if_neg (Int.not_lt.mpr h)]
  · rw [if_neg h, if_pos (Int.not_le.mp h)]

theorem normStep_eq (s e st : Int) : Blocks.normStep s e st = cDir s e * st.natAbs := by
  unfold Blocks.normStep cDir
  by_cases hse : s ≤ e
  · rw [if_pos hse, if_pos hse, Int.one_mul]
    by_cases h : st < 0
    · rw [if_pos h, Int.ofNat_natAbs_of_nonpos (Int.le_of_lt h)]
    · rw [if_neg h, Int.natAbs_of_nonneg (Int.not_lt.mp h)]
  · rw [if_neg hse, if_neg hse, Int.neg_mul, Int.one_mul]
    by_cases h : st > 0
    · rw [if_pos h, Int.natAbs_of_nonneg (Int.le_of_lt h)]
    · rw [if_neg h, Int.ofNat_natAbs_of_nonpos (Int.not_lt.mp h), Int.neg_neg]

theorem cDir_mul (a b : Int) {m : Int} (hm : 0 < m) :
    (cDir a b * m).natAbs = m ∧ WellSigned ⟨a, b, cDir a b * m⟩ := by
  rw [← ite_le_eq_cDir]
  show _ ∧ ((a ≤ b ∧ 0 < _) ∨ (b ≤ a ∧ _ < 0))
  by_cases h : a ≤ b
  · rw [if_pos h]; exact ⟨Int.natAbs_of_nonneg (Int.le_of_lt hm), Or.inl ⟨h, hm⟩⟩
  · rw [if_neg h, Int.natAbs_neg]
    exact ⟨Int.natAbs_of_nonneg (Int.le_of_lt hm),
      Or.inr ⟨Int.le_of_lt (Int.not_le.mp h), Int.neg_neg_of_pos hm⟩⟩

theorem enum_eq_prog_cDir (a b : Int) {m : Int} (hm : 0 < m) :
    enum a b m = prog a (cDir a b * m) ((b - a).natAbs / m.natAbs + 1) := by
  obtain ⟨hna, hws⟩ := cDir_mul a b hm
  have h := rngEnum_eq_prog _ hws
  rw [rngEnum, hna] at h
  have hn : (cDir a b * m).natAbs = m.natAbs := (Int.natAbs_natCast _).symm.trans (congrArg Int.natAbs hna)
  rw [h, K, hn]

/-- what both loops emit: the block `NewInclusiveRange(a, b, d)` with `b` the `n`-th term after `a` -/
theorem mkRng_prog (a : Int) {d : Int} (hd : d ≠ 0) (n : Nat) {b : Int} (hb : b = a + d * (n : Int)) :
    WellSigned (mkRng a b d) ∧ rngEnum (mkRng a b d) = prog a d (n + 1) := by
  have hf : StepsFit a b d n := hb ▸ stepsFit_self a hd n
  rw [mkRng_of_ne hd]
  exact ⟨wellSigned_of_stepsFit hf, enum_eq_prog hf⟩

theorem closest_of_between {v s e d : Int} (hb : (s ≤ v ∧ v ≤ e) ∨ (e ≤ v ∧ v ≤ s)) :
    closest v s e d = if d = 1 ∨ d = -1 then v else (v - s).tdiv d * d + s := by
  unfold closest
  by_cases hse : e ≥ s
  · rw [if_pos hse, if_neg (by omega), if_neg (by omega)]
  · rw [if_neg hse, if_neg (by omega), if_neg (by omega)]

theorem closest_ne_of_not_between {v s e d : Int} (hb : ¬ ((s ≤ v ∧ v ≤ e) ∨ (e ≤ v ∧ v ≤ s))) :
    closest v s e d ≠ v := by
  unfold closest
  by_cases hse : e ≥ s
  · rw [if_pos hse]
    by_cases h1 : v < s
    · rw [if_pos h1]; omega
    · rw [if_neg h1, if_pos (by omega)]; omega
  · rw [if_neg hse]
    by_cases h1 : v > s
    · rw [if_pos h1]; omega
    · rw [if_neg h1, if_pos (by omega)]; omega

/-- what `Contains` and `Index` test: `closestInRange` returns `v` itself iff `v` lies between
    the ends and a multiple of the step away from the start -/
theorem closest_eq_self_iff (v s e d : Int) :
    closest v s e d = v ↔ ((s ≤ v ∧ v ≤ e) ∨ (e ≤ v ∧ v ≤ s)) ∧ (v - s).tdiv d * d = v - s := by
  by_cases hb : (s ≤ v ∧ v ≤ e) ∨ (e ≤ v ∧ v ≤ s)
  · rw [closest_of_between hb]
    by_cases hd : d = 1 ∨ d = -1
    · have ht : (v - s).tdiv d * d = v - s := by
        rcases hd with rfl | rfl
        · rw [Int.tdiv_one, Int.mul_one]
        · rw [Int.tdiv_neg, Int.tdiv_one, Int.neg_mul_neg, Int.mul_one]
      rw [if_pos hd]
      exact ⟨fun _ => ⟨hb, ht⟩, fun _ => rfl⟩
    · rw [if_neg hd]
      exact ⟨fun h => ⟨hb, by omega⟩, fun h => by omega⟩
  · exact ⟨fun h => absurd h (closest_ne_of_not_between hb), fun h => absurd h.1 hb⟩

/-- `End()` in one formula: its special cases are shortcuts for the same value -/
theorem fin_eq_tdiv (r : Rng) : r.fin = r.start + (r.stop - r.start).tdiv r.step * r.step := by
  obtain ⟨s, e, d⟩ := r
  simp only [Rng.fin]
  by_cases h1 : d = 1 ∨ d = -1 ∨ s = e
  · rw [if_pos h1]
    rcases h1 with rfl | rfl | rfl
    · rw [Int.tdiv_one, Int.mul_one]; omega
    · rw [Int.tdiv_neg, Int.tdiv_one, Int.neg_mul_neg, Int.mul_one]; omega
    · rw [Int.sub_self, Int.zero_tdiv, Int.zero_mul, Int.add_zero]
  rw [if_neg h1]
  by_cases h2 : e < s ∧ d < e - s
  · have : (e - s).tdiv d = 0 := by
      rw [← Int.neg_tdiv_neg]; exact Int.tdiv_eq_zero_of_lt (by omega) (by omega)
    rw [if_pos h2, this, Int.zero_mul, Int.add_zero]
  rw [if_neg h2]
  by_cases h3 : e > s ∧ d > e - s
  · have : (e - s).tdiv d = 0 := Int.tdiv_eq_zero_of_lt (by omega) (by omega)
    rw [if_pos h3, this, Int.zero_mul, Int.add_zero]
  have hb : (s ≤ e ∧ e ≤ e) ∨ (e ≤ e ∧ e ≤ s) := (Int.le_total s e).imp (⟨·, Int.le_refl e⟩) (⟨Int.le_refl e, ·⟩)
  rw [if_neg h3, closest_of_between hb, if_neg (fun h => h1 (or_assoc.mp (.inl h))), Int.add_comm]

theorem fin_eq (r : Rng) (h : WellSigned r) : r.fin = r.start + r.step * (K r : Int) := by
  rw [fin_eq_tdiv, tdiv_eq_K r h, Int.mul_comm]

theorem len_eq (r : Rng) (h : WellSigned r) : r.len = (K r : Int) + 1 := by
  simp only [Rng.len, K, Int.natCast_ediv]
  have hm : (r.step.natAbs : Int) ≠ 0 := Int.natCast_ne_zero.mpr (Int.natAbs_ne_zero.mpr (step_ne_zero h))
  have : ((r.stop - r.start).natAbs : Int) + 1 + (r.step.natAbs : Int) - 1
      = ((r.stop - r.start).natAbs : Int) + (r.step.natAbs : Int) * 1 := by
    rw [Int.mul_one, Int.add_right_comm, Int.add_sub_cancel]
  rw [this, Int.add_mul_ediv_left _ _ hm]

theorem fin_bounds (r : Rng) (h : WellSigned r) :
    (0 < r.step ∧ r.start ≤ r.fin ∧ r.fin ≤ r.stop) ∨ (r.step < 0 ∧ r.stop ≤ r.fin ∧ r.fin ≤ r.start) := by
  rw [fin_eq r h]
  rcases stepsFit_K r h with ⟨hd, h1, _⟩ | ⟨hd, _, h1⟩
  · have := Int.mul_nonneg (Int.le_of_lt hd) (Int.natCast_nonneg (K r))
    exact Or.inl ⟨hd, by omega, h1⟩
  · have := Int.mul_nonpos_of_nonpos_of_nonneg (Int.le_of_lt hd) (Int.natCast_nonneg (K r))
    exact Or.inr ⟨hd, h1, by omega⟩

theorem mem_enum (r : Rng) (h : WellSigned r) (v : Int) :
    v ∈ rngEnum r ↔ ∃ k : Nat, k ≤ K r ∧ v = r.start + r.step * (k : Int) := by
  rw [rngEnum_eq_prog r h, mem_prog]
  simp only [Nat.lt_succ_iff]

theorem closest_eq_self_iff_mem (r : Rng) (h : WellSigned r) (v : Int) :
    closest v r.start r.fin r.step = v ↔ v ∈ rngEnum r := by
  have hd := step_ne_zero h
  rw [closest_eq_self_iff, fin_eq r h, mem_enum r h]
  constructor
  · rintro ⟨hb, hq⟩
    have hv : v = r.start + r.step * (v - r.start).tdiv r.step := by rw [Int.mul_comm]; omega
    rw [hv] at hb
    have := (between_prog hd r.start (K r) _).mp hb
    exact ⟨((v - r.start).tdiv r.step).toNat, by omega, by rw [Int.toNat_of_nonneg this.1]; exact hv⟩
  · rintro ⟨k, hk, rfl⟩
    refine ⟨(between_prog hd r.start (K r) k).mpr (by omega), ?_⟩
    rw [Int.add_comm r.start, Int.add_sub_cancel, Int.mul_tdiv_cancel_left _ hd, Int.mul_comm]

theorem value_eq (r : Rng) (i : Int) :
    r.value i =
      if 0 ≤ i ∧ ((r.start ≤ r.start + r.step * i ∧ r.start + r.step * i ≤ r.fin) ∨
          (r.fin ≤ r.start + r.step * i ∧ r.start + r.step * i ≤ r.start))
      then .ok (r.start + r.step * i) else .error .index := by
  unfold Rng.value
  by_cases hi : i < 0
  · rw [if_pos hi, if_neg (by omega)]
  rw [if_neg hi]
  simp only
  generalize r.start + r.step * i = v
  by_cases hb : (r.start ≤ v ∧ v ≤ r.fin) ∨ (r.fin ≤ v ∧ v ≤ r.start)
  · rw [if_neg (by omega), if_neg (by omega), if_pos ⟨by omega, hb⟩]
  · by_cases h1 : r.start ≤ r.fin ∧ (v < r.start ∨ v > r.fin)
    · rw [if_pos h1, if_neg (fun h => hb h.2)]
    · rw [if_neg h1, if_pos (by omega), if_neg (fun h => hb h.2)]

theorem value_of_wellSigned (r : Rng) (h : WellSigned r) (i : Int) :
    r.value i =
      if 0 ≤ i ∧ i < ((K r + 1 : Nat) : Int) then .ok (r.start + r.step * i) else .error .index := by
  have hb := between_prog (step_ne_zero h) r.start (K r) i
  rw [value_eq, fin_eq r h]
  by_cases hi : 0 ≤ i ∧ i < ((K r + 1 : Nat) : Int)
  · rw [if_pos hi, if_pos ⟨hi.1, hb.mpr (by omega)⟩]
  · rw [if_neg hi, if_neg (fun h => hi (by have := hb.mp h.2; omega))]

end Gfs.Proofs.RngAux
