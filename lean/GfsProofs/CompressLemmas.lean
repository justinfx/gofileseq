/-
  GfsProofs.CompressLemmas — FramesToFrameRange is a right inverse of range parsing (C09).
-/
import GfsProofs.ParseSem
import GfsProofs.SortLemmas

namespace Gfs.Proofs
open Gfs Gfs.Spec

def compOfGroup : Group → Comp
  | .single f => .single f
  | .run a b step =>
    if step > 1 then .stepped a b 'x' step
    else if step < -1 then .stepped a b 'x' (-step)
    else .range a b

theorem renderGroup_compText (z : Int) (g : Group) : CompText (compOfGroup g) (renderGroup z g) := by
  cases g with
  | single f =>
    exact ⟨.single (zfillInt f z), .single (zfillInt_numText f z), rfl⟩
  | run a b step =>
    unfold compOfGroup renderGroup
    by_cases h1 : step > 1
    · simp only [h1, if_true]
      exact ⟨.complex (zfillInt a z) (zfillInt b z) 'x' (itoa step),
        .stepped (zfillInt_numText a z) (zfillInt_numText b z) (itoa_numText step) (Or.inl rfl), rfl⟩
    · by_cases h2 : step < -1
      · simp only [h1, h2, if_true, if_false]
        exact ⟨.complex (zfillInt a z) (zfillInt b z) 'x' (itoa (-step)),
          .stepped (zfillInt_numText a z) (zfillInt_numText b z) (itoa_numText (-step)) (Or.inl rfl), rfl⟩
      · simp only [h1, h2, if_false]
        exact ⟨.range (zfillInt a z) (zfillInt b z),
          .range (zfillInt_numText a z) (zfillInt_numText b z), rfl⟩

/-- a descending run is written with its step negated, so that has to fit an int as well -/
theorem compOfGroup_run_valid {a b step : Int} (fa : Fits a) (fb : Fits b) (fs : Fits step)
    (fn : Fits (-step)) : (compOfGroup (.run a b step)).valid := by
  rw [compOfGroup]
  by_cases c1 : step > 1
  · rw [if_pos c1]; exact ⟨ok_stepped_x (by omega), fa, fb, fs⟩
  · rw [if_neg c1]
    by_cases c2 : step < -1
    · rw [if_pos c2]; exact ⟨ok_stepped_x (by omega), fa, fb, fn⟩
    · rw [if_neg c2]; exact ⟨rfl, fa, fb⟩

/-! `Compress`: the inner scan `scanRun` and the fuelled loop `groupsAux` taken apart; what follows
    from it about `groups` and `framesToFrameRange` stands after the namespace, in `Gfs.Proofs`. -/
namespace Compress

theorem scanRun_take (step : Int) (xs : List Int) : ∀ p : Int,
    (p :: xs).take (scanRun step p xs + 1) = prog p step (scanRun step p xs + 1) := by
  induction xs with
  | nil => intro p; rw [scanRun, prog_one]; rfl
  | cons x xs ih =>
    intro p
    rw [scanRun]
    by_cases h : x - p = step
    · obtain rfl : x = p + step := by omega
      rw [if_pos h, List.take_succ_cons, ih, ← prog_cons]
    · rw [if_neg h, prog_one]; rfl

theorem scanRun_getD (step : Int) (xs : List Int) (d : Int) (p : Int) :
    (p :: xs).getD (scanRun step p xs) d = p + step * (scanRun step p xs : Nat) := by
  rw [List.getD_eq_getElem?_getD, ← List.getElem?_take_of_lt (Nat.lt_succ_self _), scanRun_take,
    getElem?_prog _ _ (Nat.lt_succ_self _)]
  rfl

theorem expand_run (a step : Int) (i : Nat) (hs : step ≠ 0) :
    expand (compOfGroup (.run a (a + step * (i : Int)) step)) = prog a step (i + 1) := by
  have key := enum_eq_prog (stepsFit_self a hs i)
  rw [compOfGroup]
  by_cases h1 : step > 1
  · rwa [if_pos h1, expand, if_pos rfl]
  · rw [if_neg h1]
    by_cases h2 : step < -1
    · rwa [if_pos h2, expand, if_pos rfl, Int.natAbs_neg]
    · rwa [if_neg h2, expand, show (1 : Int) = (step.natAbs : Int) by omega]

/-- Each iteration of the main loop takes a non-empty prefix off the list and emits one group for
    it: a single frame, or a run for a progression of at least two frames.  Whatever holds of
    these two pairings holds of the groups against a partition of the list into prefixes. -/
theorem groupsAux_decomp (P : Group → List Int → Prop) (single : ∀ a, P (.single a) [a])
    (run : ∀ a step (j : Nat), P (.run a (a + step * ((j + 1 : Nat) : Int)) step) (prog a step (j + 2))) :
    ∀ (fuel : Nat) (l : List Int), l.length ≤ fuel →
      ∃ pres : List (List Int), l = pres.flatten ∧ Forall2 P (groupsAux fuel l) pres := by
  intro fuel l
  fun_induction groupsAux fuel l with
  | case1 l =>
    intro h
    obtain rfl : l = [] := List.length_eq_zero_iff.mp (by omega)
    exact ⟨[], rfl, .nil⟩
  | case2 fuel => exact fun _ => ⟨[], rfl, .nil⟩
  | case3 fuel a => exact fun _ => ⟨[[a]], rfl, .cons (single a) .nil⟩
  | case4 fuel a b => exact fun _ => ⟨[[a], [b]], rfl, .cons (single a) (.cons (single b) .nil)⟩
  | case5 fuel f0 f1 f2 rest step i better hb ih =>  -- `better`: `f0` goes out alone
    intro hl
    obtain ⟨pres, e, h⟩ := ih (Nat.le_of_succ_le_succ hl)
    exact ⟨[f0] :: pres, by rw [List.flatten_cons, ← e]; rfl, .cons (single f0) h⟩
  | case6 fuel f0 f1 f2 rest step i better hb fi ih =>  -- a run `f0 … fi` of stride `step`
    intro hl
    obtain ⟨pres, e, h⟩ := ih (by
      rw [List.length_drop]
      exact Nat.le_trans (Nat.sub_le_sub_right hl _) (by omega))
    have hi : i = scanRun step f1 (f2 :: rest) + 1 := by
      show scanRun step f0 (f1 :: f2 :: rest) = _
      rw [scanRun, if_pos rfl]
    have hfi : fi = f0 + step * ((scanRun step f1 (f2 :: rest) + 1 : Nat) : Int) := by
      rw [← hi]; exact scanRun_getD step _ f0 f0
    have hpre : (f0 :: f1 :: f2 :: rest).take (i + 1) = prog f0 step (i + 1) :=
      scanRun_take step (f1 :: f2 :: rest) f0
    rw [hi] at hpre
    refine ⟨_ :: pres, ?_, .cons (hfi ▸ run f0 step _) h⟩
    rw [List.flatten_cons, ← e, hi, ← hpre]
    exact (List.take_append_drop _ _).symm

theorem groups_decomp (P : Group → List Int → Prop) (single : ∀ a, P (.single a) [a])
    (run : ∀ a step (j : Nat), P (.run a (a + step * ((j + 1 : Nat) : Int)) step) (prog a step (j + 2)))
    (l : List Int) : ∃ pres : List (List Int), l = pres.flatten ∧ Forall2 P (groups l) pres :=
  groupsAux_decomp P single run l.length l (Nat.le_refl _)

theorem f2r_eq (l : List Int) (s : Bool) (z : Int) (hne : l ≠ []) :
    framesToFrameRange l s z =
      joinWith ',' ((groups (if s then sortInts l else l)).map (renderGroup z)) := by
  match l, hne with
  | [a], _ => cases s <;> rfl
  | a :: b :: rest, _ => rfl

end Compress

theorem groups_ne_nil (l : List Int) (h : l ≠ []) : groups l ≠ [] := by
  obtain ⟨pres, e, hf⟩ := Compress.groups_decomp (fun _ _ => True) (fun _ => trivial)
    (fun _ _ _ => trivial) l
  intro hg
  rw [hg] at hf
  cases hf
  exact h e

theorem groups_expand (l : List Int) (h : l.Nodup) :
    (groups l).flatMap (fun g => expand (compOfGroup g)) = l := by
  obtain ⟨pres, e, hf⟩ := Compress.groups_decomp
    (fun g pre => pre.Nodup → expand (compOfGroup g) = pre) (fun _ _ => rfl)
    (fun a step j hnd => by
      -- the first two terms of the progression differ, so the stride is not 0
      have hs : step ≠ 0 := fun h0 => by
        rw [prog_cons, prog_cons, h0] at hnd
        exact (List.nodup_cons.mp hnd).1 (by rw [Int.add_zero]; exact List.mem_cons_self)
      exact Compress.expand_run a step (j + 1) hs) l
  generalize groups l = gs at hf
  subst e
  induction hf with
  | nil => rfl
  | cons hab _ ih =>
    rw [List.flatten_cons] at h ⊢
    rw [List.flatMap_cons, hab (h.sublist (List.sublist_append_left _ _)),
      ih (h.sublist (List.sublist_append_right _ _))]

/-- the numbers written are members of the list; the steps are differences of members -/
theorem groups_valid_of_fits (l : List Int) (hfit : ∀ a ∈ l, ∀ b ∈ l, Fits a ∧ Fits (a - b)) :
    ∀ g ∈ groups l, (compOfGroup g).valid := by
  obtain ⟨pres, e, hf⟩ := Compress.groups_decomp
    (fun g pre => (∀ a ∈ pre, ∀ b ∈ pre, Fits a ∧ Fits (a - b)) → (compOfGroup g).valid)
    (fun a h => ⟨rfl, (h a List.mem_cons_self a List.mem_cons_self).1⟩)
    (fun a step j h => by
      have m0 : a ∈ prog a step (j + 2) :=
        mem_prog.2 ⟨0, Nat.succ_pos _, by rw [Int.natCast_zero, Int.mul_zero, Int.add_zero]⟩
      have m1 : a + step ∈ prog a step (j + 2) :=
        mem_prog.2 ⟨1, Nat.succ_lt_succ (Nat.succ_pos _), by rw [Int.natCast_one, Int.mul_one]⟩
      have ml : a + step * ((j + 1 : Nat) : Int) ∈ prog a step (j + 2) :=
        mem_prog.2 ⟨j + 1, Nat.lt_succ_self _, rfl⟩
      have fs := (h _ m1 a m0).2
      have fn := (h a m0 _ m1).2
      rw [show a + step - a = step by omega] at fs
      rw [show a - (a + step) = -step by omega] at fn
      exact compOfGroup_run_valid (h a m0 a m0).1 (h _ ml a m0).1 fs fn) l
  intro g hg
  obtain ⟨pre, hpre, hP⟩ := forall2_mem_left hf g hg
  have hsub : ∀ x ∈ pre, x ∈ l := fun x hx => e ▸ List.mem_flatten.2 ⟨pre, hpre, hx⟩
  exact hP fun a ha b hb => hfit a (hsub a ha) b (hsub b hb)

theorem groups_valid (l : List Int) (h : l.Nodup)
    (hfit : ∀ a ∈ l, ∀ b ∈ l, Fits a ∧ Fits (a - b)) :
    ∀ g ∈ groups l, (compOfGroup g).valid :=
  groups_valid_of_fits l hfit

theorem groups_parse (l : List Int) (z : Int) (hne : l ≠ [])
    (hfit : ∀ a ∈ l, ∀ b ∈ l, Fits a ∧ Fits (a - b)) :
    ∃ fs, FrameSet.parse (joinWith ',' ((groups l).map (renderGroup z))) = .ok fs ∧
      fs.frames = dedupFirst ((groups l).flatMap fun g => expand (compOfGroup g)) ∧ WF fs.blocks :=
  parse_printed compOfGroup (renderGroup z) (groups l) (groups_ne_nil l hne)
    (fun g _ => renderGroup_compText z g) (groups_valid_of_fits l hfit)

theorem groups_roundtrip (l : List Int) (z : Int) (hne : l ≠ []) (hnd : l.Nodup)
    (hfit : ∀ a ∈ l, ∀ b ∈ l, Fits a ∧ Fits (a - b)) :
    ∃ fs, FrameSet.parse (joinWith ',' ((groups l).map (renderGroup z))) = .ok fs ∧ fs.frames = l := by
  obtain ⟨fs, hfs, hfr, -⟩ := groups_parse l z hne hfit
  exact ⟨fs, hfs, by rw [hfr, groups_expand l hnd, dedupFirst_of_nodup l hnd]⟩

theorem f2r_sorted (l : List Int) (z : Int) (hne : l ≠ []) (hnd : l.Nodup)
    (hfit : ∀ a ∈ l, ∀ b ∈ l, Fits a ∧ Fits (a - b)) :
    ∃ fs, FrameSet.parse (framesToFrameRange l true z) = .ok fs ∧ fs.frames = sortedSet l := by
  rw [Compress.f2r_eq l true z hne, if_pos rfl, sortInts_eq_sortedSet l hnd]
  refine groups_roundtrip (sortedSet l) z ?_ (sortedSet_nodup l) ?_
  · obtain ⟨a, ha⟩ := List.exists_mem_of_ne_nil l hne
    exact List.ne_nil_of_mem ((mem_sortedSet l a).mpr ha)
  · intro a ha b hb
    exact hfit a ((mem_sortedSet l a).mp ha) b ((mem_sortedSet l b).mp hb)

theorem ListAux.f2r_parses (l : List Int) (z : Int) (hne : l ≠ [])
    (hfit : ∀ a ∈ l, ∀ b ∈ l, Fits a ∧ Fits (a - b)) :
    ∃ fs, FrameSet.parse (framesToFrameRange l true z) = .ok fs := by
  rw [Compress.f2r_eq l true z hne]
  simp only [if_true]
  obtain ⟨fs, h, _⟩ := groups_parse (sortInts l) z (sortInts_ne_nil l hne) fun a ha b hb =>
    hfit a ((mem_sortInts a l).mp ha) b ((mem_sortInts b l).mp hb)
  exact ⟨fs, h⟩

theorem Order.f2r_congr {l l' : List Int} (h : l.Perm l') (z : Int) :
    framesToFrameRange l true z = framesToFrameRange l' true z := by
  by_cases hne : l = []
  · subst hne
    rw [h.nil_eq]
  · rw [Compress.f2r_eq l true z hne, Compress.f2r_eq l' true z fun e => hne (e ▸ h).eq_nil,
      if_pos rfl, if_pos rfl, sortInts_congr h]

end Gfs.Proofs
