/-
  GfsProofs.StrParse — the printed form of a well-formed container parses back, as a
  frame range, to the same values (clause (d) of C13, the re-parse clauses of C08).
-/
import GfsProofs.ParseSem

namespace Gfs.Proofs
open Gfs Gfs.Spec

def compOfRng (r : Rng) : Comp :=
  if r.fin ≠ r.start then
    (if r.step > 1 ∨ r.step < -1 then Comp.stepped r.start r.fin 'x' r.step else Comp.range r.start r.fin)
  else Comp.single r.start

theorem rng_str_compText (r : Rng) : CompText (compOfRng r) r.str := by
  unfold compOfRng Rng.str
  by_cases h1 : r.fin ≠ r.start
  · by_cases h2 : r.step > 1 ∨ r.step < -1
    · simp only [if_pos h1, if_pos h2]
      refine ⟨.complex (itoa r.start) (itoa r.fin) 'x' (itoa r.step),
        .stepped (itoa_numText _) (itoa_numText _) (itoa_numText _) (Or.inl rfl), ?_⟩
      simp [matchText, List.append_assoc]
    · simp only [if_pos h1, if_neg h2]
      exact ⟨.range (itoa r.start) (itoa r.fin), .range (itoa_numText _) (itoa_numText _), rfl⟩
  · simp only [if_neg h1]
    exact ⟨.single (itoa r.start), .single (itoa_numText _), rfl⟩

theorem compOfRng_expand (r : Rng) (h : WellSigned r) : expand (compOfRng r) = rngEnum r := by
  unfold compOfRng
  by_cases h1 : r.fin ≠ r.start
  · rw [if_pos h1]
    by_cases h2 : r.step > 1 ∨ r.step < -1
    · rw [if_pos h2]
      simp only [expand, if_true]
      exact enum_fin r h
    · rw [if_neg h2]
      simp only [expand]
      have hn : ((r.step.natAbs : Nat) : Int) = 1 := by have := RngAux.step_ne_zero h; omega
      have := enum_fin r h
      rw [hn] at this
      exact this
  · rw [if_neg h1]
    simp only [expand]
    exact (enum_fin_start r h (Classical.not_not.mp h1)).symm

theorem str_rangeText (bl : Blocks) : RangeText (bl.map compOfRng) (Blocks.str bl) :=
  rangeText_join (forall2_map compOfRng Rng.str bl fun r _ => rng_str_compText r)

theorem compOfRng_valid (r : Rng)
    (hfit : Fits r.start ∧ Fits r.fin ∧ Fits r.step) : (compOfRng r).valid := by
  obtain ⟨f1, f2, f3⟩ := hfit
  unfold compOfRng
  by_cases h1 : r.fin ≠ r.start
  · rw [if_pos h1]
    by_cases h2 : r.step > 1 ∨ r.step < -1
    · rw [if_pos h2]
      exact ⟨ok_stepped_x (by omega), f1, f2, f3⟩
    · rw [if_neg h2]
      exact ⟨rfl, f1, f2⟩
  · rw [if_neg h1]
    exact ⟨rfl, f1⟩

theorem flatMap_compOfRng (bl : Blocks) (hw : ∀ r ∈ bl, WellSigned r) :
    (bl.map compOfRng).flatMap expand = blocksEnum bl := by
  induction bl with
  | nil => rfl
  | cons r rs ih =>
    rw [List.map_cons, List.flatMap_cons, blocksEnum_cons,
      compOfRng_expand r (hw r (by simp)), ih (fun x hx => hw x (List.mem_cons_of_mem _ hx))]

theorem str_parse (bl : Blocks) (h : WF bl) (hne : bl ≠ [])
    (hfit : ∀ r ∈ bl, Fits r.start ∧ Fits r.fin ∧ Fits r.step) :
    ∃ fs, FrameSet.parse (Blocks.str bl) = .ok fs ∧ fs.frames = Blocks.iter bl := by
  obtain ⟨fs, hp, hf, -⟩ := parse_printed compOfRng Rng.str bl hne
    (fun r _ => rng_str_compText r) (fun r hr => compOfRng_valid r (hfit r hr))
  refine ⟨fs, hp, ?_⟩
  rw [hf, ← List.flatMap_map, flatMap_compOfRng bl h.1, dedupFirst_of_nodup _ (blocks_nodup bl h),
    blocks_iter bl h]

/-- print → parse without a size hypothesis: IF the printed text of a well-formed, non-empty
    container parses at all, it parses to the same frames (and a well-formed container). -/
theorem str_parse_frames (bl : Blocks) (h : WF bl) (hne : bl ≠ []) (fs' : FrameSet)
    (hp : FrameSet.parse (Blocks.str bl) = .ok fs') :
    fs'.frames = blocksEnum bl ∧ WF fs'.blocks := by
  obtain ⟨-, hf, hwf⟩ := parse_rangeText_ok (fun hc => hne (List.map_eq_nil_iff.mp hc))
    (str_rangeText bl) hp
  exact ⟨by rw [hf, denote, flatMap_compOfRng bl h.1, dedupFirst_of_nodup _ (blocks_nodup bl h)], hwf⟩

end Gfs.Proofs
