/-
  GfsProofs.ListOrder — C05, last clause: when the files of each (dir, basename, extension) key
  share one digit width, the result of FindSequencesInList — as a set of sequences — does not
  depend on the order of the input list.

  Route: the scan's invariant (GfsProofs.ListScan) describes every bucket extensionally (its frames
  are the tokens of the items of its key, in arrival order), so two scans of permuted inputs
  have, key by key, buckets whose frame lists are permutations of each other; on such buckets of
  one width `bucketSeqs` gives the same sequences (`bucketSeqs_uniform`, GfsProofs.ListGroup).
-/
import GfsProofs.ListScan

namespace Gfs.Proofs
namespace Order
open Gfs Gfs.Proofs.ListAux

/-- every key has one digit width -/
def Uniform (o : ListOpts) (items : List FileItem) : Prop :=
  ∀ it ∈ items, ∀ it' ∈ items, bucketable o it = true → bucketable o it' = true →
    ikey it = ikey it' → (itok it).length = (itok it').length

/-- one bucket after the items `pre` when every key has one digit width: `BOk`, and every frame
    has the bucket's width -/
structure BInv (o : ListOpts) (pre : List FileItem) (b : SeqInfo) : Prop where
  frames : b.frames = (toksFor o (bkey b) pre).map mkFI
  ne : b.frames ≠ []
  width : ∀ f ∈ b.frames, f.frame.length = b.minWidth
  pad : b.padding = padChars o.style b.minWidth

theorem binv_of_uniform {o : ListOpts} {pre : List FileItem} {b : SeqInfo} (h : BOk o pre b)
    (hU : Uniform o pre) : BInv o pre b := by
  obtain ⟨t0, ht0, hw⟩ := h.wit
  have hne : b.frames ≠ [] := h.frames ▸ List.ne_nil_of_mem (List.mem_map.2 ⟨t0, ht0, rfl⟩)
  obtain ⟨it0, hm0, hb0, hk0, rfl⟩ := mem_toksFor ht0
  refine ⟨h.frames, hne, ?_, h.pad⟩
  intro f hf
  rw [h.frames] at hf
  obtain ⟨t, ht, rfl⟩ := List.mem_map.1 hf
  obtain ⟨it, hm, hb, hk, rfl⟩ := mem_toksFor ht
  rw [hw]
  exact hU it hm it0 hm0 hb hb0 (hk.trans hk0.symm)

theorem mkFI_frame (t : Bytes) : (mkFI t).frame = t := rfl

theorem bucketSeqs_equiv (st : PadStyle) (b b' : SeqInfo) (w : Nat)
    (hk : bkey b = bkey b') (hp : b.padding = b'.padding)
    (hperm : b.frames.Perm b'.frames) (hw : ∀ f ∈ b.frames, f.frame.length = w) :
    bucketSeqs st b = bucketSeqs st b' := by
  obtain ⟨hd, hb, he⟩ : b.dir = b'.dir ∧ b.base = b'.base ∧ b.ext = b'.ext := by
    simpa only [bkey, Prod.mk.injEq] using hk
  have hw' : ∀ f ∈ b'.frames, f.frame.length = w := fun f hf => hw f (hperm.mem_iff.2 hf)
  cases hf : b.frames with
  | nil =>
    have hf' : b'.frames = [] := by rw [hf] at hperm; exact hperm.nil_eq.symm ▸ rfl
    unfold bucketSeqs; rw [hf, hf']
  | cons f1 r1 =>
    cases r1 with
    | nil =>
      have hf' : b'.frames = [f1] := by rw [hf] at hperm; exact (List.singleton_perm.1 hperm).symm
      unfold bucketSeqs; rw [hf, hf', hd, hb, he, hp]
    | cons f2 r2 =>
      have hlen : 2 ≤ b.frames.length := by rw [hf]; simp
      rw [bucketSeqs_uniform st b w hlen hw,
        bucketSeqs_uniform st b' w (hperm.length_eq ▸ hlen) hw',
        f2r_congr (hperm.map (·.num)) 0, hd, hb, he]

theorem toksFor_perm (o : ListOpts) (k : Key) {l l' : List FileItem} (h : l.Perm l') :
    (toksFor o k l).Perm (toksFor o k l') := (h.filter _).map _

/-- one direction: the second scan has a bucket that gives the sequences of a bucket of the first -/
theorem bucket_transfer (o : ListOpts) (items items' : List FileItem) (hperm : items.Perm items')
    (hU : Uniform o items) (b : SeqInfo) (hb : b ∈ bucketsOf o items) :
    ∃ b' ∈ bucketsOf o items', bucketSeqs o.style b' = bucketSeqs o.style b := by
  have hU' : Uniform o items' := fun a ha c hc => hU a (hperm.mem_iff.2 ha) c (hperm.mem_iff.2 hc)
  have hI := inv_bucketsOf o items
  have hI' := inv_bucketsOf o items'
  have hB := binv_of_uniform (hI.each b hb) hU
  -- an item of this key, and its bucket in the other scan
  obtain ⟨t0, ht0, _⟩ := (hI.each b hb).wit
  obtain ⟨it0, hm0, hb0, hk0, rfl⟩ := mem_toksFor ht0
  obtain ⟨b', hb'm, hb'k⟩ := List.mem_map.1 (hI'.cover it0 (hperm.mem_iff.1 hm0) hb0)
  have hkk : bkey b' = bkey b := hb'k.trans hk0
  have hB' := binv_of_uniform (hI'.each b' hb'm) hU'
  have hpermF : b'.frames.Perm b.frames := by
    rw [hB'.frames, hB.frames, hkk]
    exact ((toksFor_perm o (bkey b) hperm).symm).map mkFI
  have hfm : mkFI (itok it0) ∈ b.frames := hB.frames ▸ List.mem_map.2 ⟨_, ht0, rfl⟩
  have hmw : b'.minWidth = b.minWidth :=
    (hB'.width _ (hpermF.mem_iff.2 hfm)).symm.trans (hB.width _ hfm)
  refine ⟨b', hb'm, bucketSeqs_equiv o.style b' b b'.minWidth hkk ?_ hpermF hB'.width⟩
  rw [hB'.pad, hB.pad, hmw]

theorem findInItems_order (o : ListOpts) (items items' : List FileItem) (hperm : items.Perm items')
    (hU : Uniform o items) :
    ∃ r r', findInItems items o none = .ok r ∧ findInItems items' o none = .ok r' ∧
      ∀ s, s ∈ r ↔ s ∈ r' := by
  have hU' : Uniform o items' := fun a ha c hc => hU a (hperm.mem_iff.2 ha) c (hperm.mem_iff.2 hc)
  -- one inclusion, for any two such lists
  have sub : ∀ {l l' : List FileItem}, l.Perm l' → Uniform o l → ∀ s,
      s ∈ ((bucketsOf o l).map (bucketSeqs o.style)).flatten ++
          (if o.single then singlesOf o l else []) →
      s ∈ ((bucketsOf o l').map (bucketSeqs o.style)).flatten ++
          (if o.single then singlesOf o l' else []) := by
    intro l l' hp hu s hs
    rcases List.mem_append.1 hs with hs | hs
    · obtain ⟨_, hl, hsl⟩ := List.mem_flatten.1 hs
      obtain ⟨b, hb, rfl⟩ := List.mem_map.1 hl
      obtain ⟨b', hb', heq⟩ := bucket_transfer o l l' hp hu b hb
      exact List.mem_append_left _ (List.mem_flatten.2 ⟨_, List.mem_map.2 ⟨b', hb', rfl⟩, heq ▸ hsl⟩)
    · refine List.mem_append_right _ ((List.Perm.mem_iff ?_).1 hs)
      split
      · exact (hp.filter _).map _
      · exact .refl _
  exact ⟨_, _, findInItems_eq items o, findInItems_eq items' o,
    fun s => ⟨sub hperm hU s, sub hperm.symm hU' s⟩⟩

end Order
end Gfs.Proofs
