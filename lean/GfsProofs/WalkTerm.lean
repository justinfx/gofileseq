/-
  GfsProofs.WalkTerm — the recursive walk of seqls (`Seqls.walk`, the model of loadRecursive's
  fastwalk callback with its cycle cache) terminates on every tree: there is a recursion depth,
  computed from the tree alone, beyond which more fuel changes nothing.  The measure of a call
  (seen, real) is lexicographic: the number of link targets not yet recorded, then the room left
  for the real path to grow.

  The loop over the children of a directory threads the cache through `visit`, what the walk does
  for one child given the recursive call; every statement about the walk is an induction on the
  fuel whose step is a statement about `visit`, carried through the loop by `List.foldlRecOn`
  (by `foldl_congr_inv` where two loops are compared: the cache they share only grows).
-/
import GfsModel.Seqls

namespace Gfs.Proofs.WalkTerm
open Gfs Gfs.Seqls

theorem parentOf_length_lt (p : Bytes) (h : p ≠ []) : (parentOf p).length < p.length := by
  unfold parentOf pathSplit
  simp only [List.reverse_reverse]
  have hd := (List.dropWhile_sublist (· ≠ '/') (l := p.reverse)).length_le
  -- what is left after dropping the last component is empty or starts (reversed) with its '/'
  have hhead := List.head?_dropWhile_not (· ≠ '/') p.reverse
  cases hr : p.reverse.dropWhile (· ≠ '/') with
  | nil => exact List.length_pos_iff.2 h
  | cons c r =>
    rw [hr] at hd hhead
    have hc : c = '/' := by simpa using hhead
    subst hc
    simp only [List.length_reverse, List.length_cons] at hd ⊢
    omega

theorem mem_le_foldl_max (l : List Nat) (a x : Nat) (h : x ∈ l) : x ≤ l.foldl max a := by
  rw [List.foldl_max]
  exact Nat.le_trans (List.le_max?_getD_of_mem h) (Nat.le_max_right ..)

theorem path_le_maxLen {t : Tree} {n : Node} (h : n ∈ t) : n.path.length ≤ maxLen t :=
  Nat.le_trans (Nat.le_max_left _ _) (mem_le_foldl_max _ 0 _ (List.mem_map.2 ⟨n, h, rfl⟩))

/-- the other half of `maxLen`.  The termination argument does not use it: the walk of a link
    target is bounded through its children (`path_le_maxLen`), see `mu_link_lt`. -/
theorem target_le_maxLen (t : Tree) (n : Node) (tg : Bytes) (h : n ∈ t) (hk : n.kind = .linkDir tg) :
    tg.length ≤ maxLen t := by
  refine Nat.le_trans ?_ (mem_le_foldl_max _ 0 _ (List.mem_map.2 ⟨n, h, rfl⟩))
  rw [hk]
  exact Nat.le_max_right _ _

theorem target_mem {t : Tree} {n : Node} {tg : Bytes} (h : n ∈ t) (hk : n.kind = .linkDir tg) :
    tg ∈ targets t :=
  List.mem_filterMap.2 ⟨n, h, by rw [hk]⟩

theorem mem_childrenOf {t : Tree} {real : Bytes} {n : Node} (h : n ∈ childrenOf t real) :
    n ∈ t ∧ parentOf n.path = real ∧ n.path ≠ [] := by
  simpa [childrenOf] using h

/-- link targets not yet recorded (with repetitions) -/
def unseen (t : Tree) (seen : List Bytes) : Nat :=
  ((targets t).filter fun tg => !seen.contains tg).length

/-- the measure of the call `walk t all _ seen _ real`: the pair (`unseen`, room left for the real
    path to grow) as one number, the second component staying below the factor `maxLen t + 2` -/
def mu (t : Tree) (seen : List Bytes) (real : Bytes) : Nat :=
  unseen t seen * (maxLen t + 2) + (maxLen t + 1 - real.length)

theorem unseen_mono (t : Tree) {s s' : List Bytes} (h : s ⊆ s') : unseen t s' ≤ unseen t s := by
  simp only [unseen, ← List.countP_eq_length_filter]
  apply List.countP_mono_left
  intro x _ hx
  simp only [Bool.not_eq_true', List.contains_eq_mem, decide_eq_false_iff_not] at hx ⊢
  exact fun hm => hx (h hm)

theorem unseen_cons_lt {t : Tree} {s : List Bytes} {tg : Bytes} (hm : tg ∈ targets t)
    (hs : s.contains tg = false) : unseen t (tg :: s) < unseen t s := by
  have : (fun x => !(tg :: s).contains x) = fun x => (x != tg) && !s.contains x := by
    funext x
    rw [List.contains_cons, Bool.not_or, bne]
  unfold unseen
  rw [this, ← List.filter_filter]
  exact List.length_filter_lt_length_iff_exists.2
    ⟨tg, List.mem_filter.2 ⟨hm, by rw [hs]; rfl⟩, by simp⟩

/-- the lexicographic order behind `mu`: the second component stays below the factor `K` -/
theorem lex_lt {a a' b b' K : Nat} (hb : b' < K) (h : a' < a ∨ a' ≤ a ∧ b' < b) :
    a' * K + b' < a * K + b := by
  rcases h with h | ⟨h, hlt⟩
  · calc a' * K + b' < a' * K + K := Nat.add_lt_add_left hb _
      _ = (a' + 1) * K := (Nat.succ_mul ..).symm
      _ ≤ a * K := Nat.mul_le_mul_right K h
      _ ≤ a * K + b := Nat.le_add_right ..
  · exact Nat.add_lt_add_of_le_of_lt (Nat.mul_le_mul_right K h) hlt

theorem mu_lt_bound (t : Tree) (s : List Bytes) (real : Bytes) : mu t s real < walkBound t :=
  lex_lt (b := 0) (Nat.lt_succ_of_le (Nat.sub_le ..))
    (.inl (Nat.lt_succ_of_le (List.length_filter_le ..)))

/-- the walk of a sub-directory has a smaller measure, whatever was recorded meanwhile -/
theorem mu_dir_lt {t : Tree} {seen s : List Bytes} {real : Bytes} {n : Node}
    (hn : n ∈ childrenOf t real) (hs : seen ⊆ s) : mu t s n.path < mu t seen real := by
  obtain ⟨hnt, rfl, hne⟩ := mem_childrenOf hn
  have := parentOf_length_lt _ hne
  have := path_le_maxLen hnt
  exact lex_lt (Nat.lt_succ_of_le (Nat.sub_le ..)) (.inr ⟨unseen_mono t hs, by omega⟩)

/-- so has the walk of a link target that is recorded for the first time -/
theorem mu_link_lt {t : Tree} {seen s : List Bytes} {real tg : Bytes} {n : Node}
    (hnt : n ∈ t) (hk : n.kind = .linkDir tg) (hs : seen ⊆ s) (hc : s.contains tg = false) :
    mu t (tg :: s) tg < mu t seen real :=
  lex_lt (Nat.lt_succ_of_le (Nat.sub_le ..)) (.inl (Nat.lt_of_lt_of_le
    (unseen_cons_lt (target_mem hnt hk) hc) (unseen_mono t hs)))

/-- what the loop over the children does with one child, the recursive call being a parameter:
    the pairs it lists and the cache it leaves -/
def visit (all : Bool) (shown : Bytes)
    (rec : List Bytes → Bytes → Bytes → List (Bytes × Bytes) × List Bytes)
    (seen : List Bytes) (n : Node) : List (Bytes × Bytes) × List Bytes :=
  match n.kind with
  | .dir => rec seen (joinPath shown (baseName n.path)) n.path
  | .linkDir tgt =>
    if seen.contains tgt then
      (if !all ∧ (baseName (joinPath shown (baseName n.path))).length > 1 ∧
            isPrefixOf ['.'] (baseName (joinPath shown (baseName n.path))) then []
        else [(joinPath shown (baseName n.path), tgt)], seen)
    else rec (tgt :: seen) (joinPath shown (baseName n.path)) tgt
  | _ => ([], seen)

/-- one turn of a loop that threads a state through `g` and appends what `g` yields -/
def thread {α β σ : Type} (g : σ → α → List β × σ) (acc : List β × σ) (a : α) : List β × σ :=
  (acc.1 ++ (g acc.2 a).1, (g acc.2 a).2)

theorem walk_succ (t : Tree) (all : Bool) (fuel : Nat) (seen : List Bytes) (shown real : Bytes) :
    walk t all (fuel + 1) seen shown real =
      if !all ∧ (baseName shown).length > 1 ∧ isPrefixOf ['.'] (baseName shown) then ([], seen)
      else (childrenOf t real).foldl (thread (visit all shown (walk t all fuel)))
        ([(shown, real)], seen) := by
  rw [walk]
  refine ite_congr rfl (fun _ => rfl) fun _ => ?_
  congr 1
  funext acc n
  obtain ⟨out, s⟩ := acc
  unfold thread visit
  cases n.kind with
  | dir => rfl
  | linkDir tgt =>
    simp only
    cases s.contains tgt
    · rfl
    · simp only [if_true]
      split
      · rw [List.append_nil]
      · rfl
  | file => exact congrArg (·, s) (List.append_nil out).symm
  | linkFile => exact congrArg (·, s) (List.append_nil out).symm

theorem foldl_congr_inv {α β : Type} (I : β → Prop) {f g : β → α → β} {l : List α} {b : β}
    (hb : I b) (h : ∀ acc n, I acc → n ∈ l → f acc n = g acc n ∧ I (f acc n)) :
    l.foldl f b = l.foldl g b := by
  induction l generalizing b with
  | nil => rfl
  | cons x xs ih =>
    obtain ⟨he, hi⟩ := h b x hb List.mem_cons_self
    rw [List.foldl_cons, List.foldl_cons, ← he]
    exact ih hi fun acc n ha hn => h acc n ha (List.mem_cons_of_mem _ hn)

theorem visit_seen_sub {all : Bool} {shown : Bytes}
    {rec : List Bytes → Bytes → Bytes → List (Bytes × Bytes) × List Bytes}
    (hrec : ∀ s sh r, s ⊆ (rec s sh r).2) (seen : List Bytes) (n : Node) :
    seen ⊆ (visit all shown rec seen n).2 := by
  -- the cases of `visit`, here and in `visit_congr`, `visit_listed`: a sub-directory; a link, to a
  -- recorded target or to a new one; anything else
  unfold visit
  split
  · exact hrec ..
  · split
    · exact List.Subset.refl _
    · exact List.Subset.trans (List.subset_cons_self _ _) (hrec ..)
  · exact List.Subset.refl _

theorem walk_seen_sub (t : Tree) (all : Bool) : ∀ (fuel : Nat) (seen : List Bytes) (shown real : Bytes),
    seen ⊆ (walk t all fuel seen shown real).2
  | 0, _, _, _ => List.Subset.refl _
  | fuel + 1, seen, shown, real => by
    rw [walk_succ]
    split
    · exact List.Subset.refl _
    · exact List.foldlRecOn _ _ (motive := fun acc : List (Bytes × Bytes) × List Bytes => seen ⊆ acc.2)
        (List.Subset.refl _) fun acc ha n _ =>
          List.Subset.trans ha (visit_seen_sub (walk_seen_sub t all fuel) acc.2 n)

/-- `visit` calls `rec` only where the measure is smaller than that of the directory it is in -/
theorem visit_congr {t : Tree} {all : Bool} {shown real : Bytes} {seen s : List Bytes} {n : Node}
    {rec rec' : List Bytes → Bytes → Bytes → List (Bytes × Bytes) × List Bytes}
    (hn : n ∈ childrenOf t real) (hs : seen ⊆ s)
    (h : ∀ s' sh' r', mu t s' r' < mu t seen real → rec s' sh' r' = rec' s' sh' r') :
    visit all shown rec s n = visit all shown rec' s n := by
  unfold visit
  split
  · exact h _ _ _ (mu_dir_lt hn hs)
  · rename_i tgt hk
    split
    · rfl
    · rename_i hc
      exact h _ _ _ (mu_link_lt (mem_childrenOf hn).1 hk hs (Bool.eq_false_iff.2 hc))
  · rfl

theorem walk_stable (t : Tree) (all : Bool) : ∀ (fuel : Nat) (seen : List Bytes) (shown real : Bytes),
    mu t seen real < fuel → walk t all (fuel + 1) seen shown real = walk t all fuel seen shown real
  | 0, _, _, _, h => absurd h (Nat.not_lt_zero _)
  | fuel + 1, seen, shown, real, h => by
    rw [walk_succ t all (fuel + 1), walk_succ t all fuel]
    split
    · rfl
    · refine foldl_congr_inv (fun acc : List (Bytes × Bytes) × List Bytes => seen ⊆ acc.2)
        (List.Subset.refl _) fun acc n ha hn => ⟨?_, ?_⟩
      · unfold thread
        rw [visit_congr hn ha fun s' sh' r' hlt => walk_stable t all fuel s' sh' r'
          (Nat.lt_of_lt_of_le hlt (Nat.le_of_lt_succ h))]
      · exact List.Subset.trans ha (visit_seen_sub (walk_seen_sub t all (fuel + 1)) acc.2 n)

/-- a name the walk treats as hidden: `len(name) > 1 && strings.HasPrefix(name, ".")` in
    loadRecursive -/
def hiddenName (nm : Bytes) : Prop := nm.length > 1 ∧ isPrefixOf ['.'] nm = true

/- `P real p`: the walk of the directory `real` may list the pair `p`.  A starting point that is
   not hidden is listed; so is a link to a recorded target, as the starting point of a walk that is
   not made; and a directory lists what the walks of its sub-directories and of its links' targets
   list. -/
section
variable {t : Tree} {all : Bool} {P : Bytes → Bytes × Bytes → Prop}
  (root : ∀ shown real, ¬ ((!all) = true ∧ hiddenName (baseName shown)) → P real (shown, real))
  (dir : ∀ n ∈ t, n.kind = .dir → ∀ real p, P n.path p → P real p)
  (link : ∀ n ∈ t, ∀ tg, n.kind = .linkDir tg → ∀ real p, P tg p → P real p)
include root dir link

theorem visit_listed {shown real : Bytes} {seen : List Bytes} {n : Node}
    {rec : List Bytes → Bytes → Bytes → List (Bytes × Bytes) × List Bytes}
    (hnt : n ∈ t) (hrec : ∀ s sh r, ∀ p ∈ (rec s sh r).1, P r p) :
    ∀ p ∈ (visit all shown rec seen n).1, P real p := by
  unfold visit
  split
  · rename_i hk
    exact fun p hp => dir n hnt hk real p (hrec _ _ _ p hp)
  · rename_i tgt hk
    split
    · split
      · exact fun _ h => absurd h List.not_mem_nil
      · rename_i hnh
        intro p hp
        cases List.mem_singleton.1 hp
        exact link n hnt tgt hk real _ (root _ tgt hnh)
    · exact fun p hp => link n hnt tgt hk real p (hrec _ _ _ p hp)
  · exact fun _ h => absurd h List.not_mem_nil

theorem walk_listed : ∀ (fuel : Nat) (seen : List Bytes) (shown real : Bytes),
    ∀ p ∈ (walk t all fuel seen shown real).1, P real p
  | 0, _, _, _ => fun _ h => absurd h List.not_mem_nil
  | fuel + 1, seen, shown, real => by
    rw [walk_succ]
    split
    · exact fun _ h => absurd h List.not_mem_nil
    · rename_i hroot
      refine List.foldlRecOn _ _
        (motive := fun acc : List (Bytes × Bytes) × List Bytes => ∀ p ∈ acc.1, P real p)
        (fun p hp => ?_) fun acc ha n hn p hp => (List.mem_append.1 hp).elim (ha p)
          (visit_listed root dir link (mem_childrenOf hn).1 (walk_listed fuel) p)
      cases List.mem_singleton.1 hp
      exact root shown real hroot

end

end Gfs.Proofs.WalkTerm
