/-
  GfsProofs.ParseSyn — the syntactic half of C01: the recogniser for the three anchored range
  patterns, the texts of components and component lists, splitting and joining on commas.
-/
import GfsProofs.NumLemmas

namespace Gfs.Proofs
open Gfs Gfs.Spec

/-! Lists related pointwise, and `mapM` into `Except`.  `Forall2` is the grammar's own
    (GfsSpec.Grammar): core has no such relation, and so no lemmas on it. -/

theorem forall2_map {α β γ : Type} {R : β → γ → Prop} (f : α → β) (g : α → γ) (xs : List α)
    (h : ∀ x ∈ xs, R (f x) (g x)) : Forall2 R (xs.map f) (xs.map g) := by
  induction xs with
  | nil => exact .nil
  | cons x xs ih =>
    exact .cons (h x List.mem_cons_self) (ih fun y hy => h y (List.mem_cons_of_mem _ hy))

theorem forall2_map_imp {α β γ : Type} {R : α → γ → Prop} {f g : β → γ}
    (h : ∀ a b, R a (f b) → R a (g b)) {as : List α} {bs : List β} :
    Forall2 R as (bs.map f) → Forall2 R as (bs.map g) := by
  induction bs generalizing as with
  | nil => exact id
  | cons b bs ih =>
    intro h'
    cases h' with
    | cons hab hrest => exact .cons (h _ _ hab) (ih hrest)

theorem forall2_mem_left {α β : Type} {R : α → β → Prop} {as : List α} {bs : List β}
    (h : Forall2 R as bs) : ∀ a ∈ as, ∃ b ∈ bs, R a b := by
  induction h with
  | nil => exact fun _ h => nomatch h
  | cons hab _ ih =>
    intro a ha
    rcases List.mem_cons.1 ha with rfl | ha
    · exact ⟨_, List.mem_cons_self, hab⟩
    · obtain ⟨b, hb, hr⟩ := ih a ha
      exact ⟨b, List.mem_cons_of_mem _ hb, hr⟩

theorem forall2_map_right {α β : Type} {R : α → β → Prop} (f : β → β) {as : List α} {bs : List β}
    (h : Forall2 R as bs) (hf : ∀ a b, a ∈ as → R a b → R a (f b)) : Forall2 R as (bs.map f) := by
  induction h with
  | nil => exact .nil
  | cons hab _ ih =>
    exact .cons (hf _ _ List.mem_cons_self hab) (ih fun a b ha => hf a b (List.mem_cons_of_mem _ ha))

theorem forall2_forall_right {α β : Type} {R : α → β → Prop} {P : β → Prop} {as : List α}
    {bs : List β} (h : Forall2 R as bs) (hp : ∀ a b, R a b → P b) : ∀ b ∈ bs, P b := by
  induction h with
  | nil => exact fun _ hb => nomatch hb
  | cons hab _ ih => exact List.forall_mem_cons.2 ⟨hp _ _ hab, ih⟩

theorem mapM_ok_iff {α β ε : Type} (f : α → Except ε β) (l : List α) (r : List β) :
    l.mapM f = .ok r ↔ Forall2 (fun a b => f a = .ok b) l r := by
  induction l generalizing r with
  | nil =>
    rw [List.mapM_nil]
    exact ⟨fun h => by cases h; exact .nil, fun h => by cases h; rfl⟩
  | cons a l ih =>
    rw [List.mapM_cons]
    constructor
    · intro h
      cases ha : f a with
      | error e => rw [ha] at h; cases h
      | ok b =>
        cases hl : l.mapM f with
        | error e => rw [ha, hl] at h; cases h
        | ok r' => rw [ha, hl] at h; cases h; exact .cons ha ((ih r').1 hl)
    · intro h
      cases h with
      | cons h1 h2 => rw [h1, (ih _).2 h2]; rfl

theorem mapM_isOk_iff {α β ε : Type} (f : α → Except ε β) (l : List α) :
    (l.mapM f).isOk = l.all fun a => (f a).isOk := by
  induction l with
  | nil => rfl
  | cons a l ih =>
    rw [List.mapM_cons, List.all_cons, ← ih]
    cases f a with
    | error e => rfl
    | ok b => cases l.mapM f <;> rfl

theorem matchPart_complete {c : Comp} {m : Match} (h : MatchOf c m) :
    matchPart (matchText m) = some m := by
  cases h with
  | single ha =>
    simp [matchPart, matchText, takeNum_numText_nil ha]
  | @range a b ta tb ha hb =>
    have h1 := takeNum_numText ha ('-' :: tb) (by simp; decide)
    simp [matchPart, matchText, h1, takeNum_numText_nil hb]
  | @stepped a b n ta tb tn m ha hb hn hm =>
    have hmd : isDigit m = false := by
      rcases hm with rfl | rfl | rfl <;> decide
    have h1 : takeNum (ta ++ '-' :: (tb ++ m :: tn)) = some (ta, '-' :: (tb ++ m :: tn)) :=
      takeNum_numText ha _ (by simp; decide)
    have h2 : takeNum (tb ++ m :: tn) = some (tb, m :: tn) :=
      takeNum_numText hb _ (by simpa using hmd)
    have hm' : m = ':' ∨ m = 'x' ∨ m = 'y' := by
      rcases hm with h | h | h <;> simp [h]
    simp only [matchText, List.append_assoc, List.cons_append]
    simp [matchPart, h1, h2, hm', takeNum_numText_nil hn]

theorem matchPart_sound {p : Bytes} {m : Match} (h : matchPart p = some m) :
    p = matchText m ∧ ∃ c, MatchOf c m := by
  revert h
  fun_cases matchPart p
  case case2 h1 =>  -- a numeral and nothing after it
    rintro ⟨⟩
    obtain ⟨e1, na, hna⟩ := takeNum_sound h1
    exact ⟨by rw [e1, List.append_nil]; rfl, _, .single hna⟩
  case case4 h1 h2 =>  -- numeral, '-', numeral, nothing after it
    rintro ⟨⟩
    obtain ⟨e1, na, hna⟩ := takeNum_sound h1
    obtain ⟨e2, nb, hnb⟩ := takeNum_sound h2
    exact ⟨by rw [e1, e2, List.append_nil]; rfl, _, .range hna hnb⟩
  case case5 hm _ h3 h1 h2 =>  -- … then one of ':', 'x', 'y' and a third numeral, nothing after it
    rintro ⟨⟩
    obtain ⟨e1, na, hna⟩ := takeNum_sound h1
    obtain ⟨e2, nb, hnb⟩ := takeNum_sound h2
    obtain ⟨e3, nn, hnn⟩ := takeNum_sound h3
    refine ⟨by rw [e1, e2, e3, List.append_nil]; simp [matchText], _, .stepped hna hnb hnn ?_⟩
    rcases hm with h | h | h <;> simp [h]
  -- in the other five cases nothing is matched
  all_goals exact nofun

theorem matchPart_nil : matchPart [] = none := by
  simp [matchPart, takeNum]

/-- rewriting the captures of a part so that they stay captures of the same component keeps the
    part a text of that component (both libraries' `padPart` have this form) -/
theorem compText_mapMatch {c : Comp} {part : Bytes} (f : Match → Match) (h : CompText c part)
    (hf : ∀ m, MatchOf c m → MatchOf c (f m)) :
    CompText c (match matchPart part with | some m => matchText (f m) | none => part) := by
  obtain ⟨m, hm, rfl⟩ := h
  rw [matchPart_complete hm]
  exact ⟨f m, hf m hm, rfl⟩

theorem compText_ne_nil {c : Comp} {p : Bytes} (h : CompText c p) : p ≠ [] := by
  obtain ⟨m, hm, rfl⟩ := h
  intro h0
  have := matchPart_complete hm
  rw [h0, matchPart_nil] at this
  cases this

/-- a capture belongs to one component: a numeral has one value -/
theorem matchOf_unique {c c' : Comp} {m : Match} (h : MatchOf c m) (h' : MatchOf c' m) : c = c' := by
  cases h with
  | single ha =>
    cases h' with
    | single ha' => rw [numText_unique ha ha']
  | range ha hb =>
    cases h' with
    | range ha' hb' => rw [numText_unique ha ha', numText_unique hb hb']
  | stepped ha hb hn _ =>
    cases h' with
    | stepped ha' hb' hn' _ => rw [numText_unique ha ha', numText_unique hb hb', numText_unique hn hn']

theorem compText_matchText_iff {c c0 : Comp} {m : Match} (h : MatchOf c0 m) :
    CompText c (matchText m) ↔ c = c0 := by
  constructor
  · rintro ⟨m', hm', e⟩
    have hmm : some m = some m' :=
      (matchPart_complete h).symm.trans (e ▸ matchPart_complete hm')
    cases hmm
    exact matchOf_unique hm' h
  · rintro rfl
    exact ⟨m, h, rfl⟩

theorem numText_forall {P : Char → Prop} (hd : ∀ c, isDigit c = true → P c) (hm : P '-')
    {n : Int} {t : Bytes} (h : NumText n t) : ∀ c ∈ t, P c := by
  obtain ⟨neg, ds, -, hds, rfl, -⟩ := h
  intro c hc
  rcases List.mem_append.1 hc with h | h
  · cases neg
    · cases h
    · rw [List.mem_singleton.1 h]; exact hm
  · exact hd c (hds c h)

/-- stated for any property of characters: "is no comma" and "is no junk" are the instances -/
theorem matchText_forall {P : Char → Prop} (hd : ∀ c, isDigit c = true → P c) (hm : P '-')
    (hx : P 'x') (hy : P 'y') (hc : P ':') {c : Comp} {m : Match} (h : MatchOf c m) :
    ∀ ch ∈ matchText m, P ch := by
  have num := @numText_forall P hd hm
  cases h with
  | single ha => exact num ha
  | range ha hb =>
    intro ch hch
    simp only [matchText, List.mem_append, List.mem_cons] at hch
    rcases hch with h | rfl | h
    · exact num ha ch h
    · exact hm
    · exact num hb ch h
  | stepped ha hb hn hmod =>
    intro ch hch
    simp only [matchText, List.mem_append, List.mem_cons] at hch
    rcases hch with (h | rfl | h) | rfl | h
    · exact num ha ch h
    · exact hm
    · exact num hb ch h
    · rcases hmod with rfl | rfl | rfl
      · exact hx
      · exact hy
      · exact hc
    · exact num hn ch h

theorem matchText_no_comma {c : Comp} {m : Match} (h : MatchOf c m) : ',' ∉ matchText m := fun hc =>
  matchText_forall (P := (· ≠ ',')) (fun _ h => ne_of_isDigit h (by decide)) (by decide) (by decide) (by decide)
    (by decide) h ',' hc rfl

theorem digit_not_junk {d : Char} (h : isDigit d = true) : isJunk d = false := by
  simp only [isJunk, Bool.or_eq_false_iff, decide_eq_false_iff_not]
  exact ⟨⟨ne_of_isDigit h (by decide), ne_of_isDigit h (by decide)⟩, ne_of_isDigit h (by decide)⟩

theorem stripJunk_matchText {c : Comp} {m : Match} (h : MatchOf c m) :
    stripJunk (matchText m) = matchText m := by
  refine List.filter_eq_self.2 fun ch hch => ?_
  rw [matchText_forall (P := fun c => isJunk c = false) (fun _ => digit_not_junk) (by decide)
    (by decide) (by decide) (by decide) h ch hch]
  rfl

theorem stripJunk_compText {c : Comp} {p : Bytes} (h : CompText c p) : stripJunk p = p := by
  obtain ⟨m, hm, rfl⟩ := h
  exact stripJunk_matchText hm

theorem stripJunk_no_comma {p : Bytes} (h : ',' ∉ p) : ',' ∉ stripJunk p := by
  intro hm
  exact h (List.mem_filter.1 hm).1

/-! Splitting and joining on commas. -/

theorem splitOn_ne_nil (sep : Char) (s : Bytes) : splitOn sep s ≠ [] := by
  cases s with
  | nil => simp [splitOn]
  | cons c cs =>
    unfold splitOn
    split
    · simp
    · split <;> simp

/-- the recursion equation of `splitOn` without the branch that is never taken -/
theorem splitOn_cons (sep c : Char) (cs : Bytes) : ∃ p ps, splitOn sep cs = p :: ps ∧
    splitOn sep (c :: cs) = if c = sep then [] :: p :: ps else (c :: p) :: ps := by
  cases he : splitOn sep cs with
  | nil => exact absurd he (splitOn_ne_nil sep cs)
  | cons p ps => exact ⟨p, ps, rfl, by rw [splitOn, he]⟩

theorem splitOn_no_sep (sep : Char) (p : Bytes) (h : sep ∉ p) : splitOn sep p = [p] := by
  induction p with
  | nil => rfl
  | cons c p ih =>
    have hc : c ≠ sep := fun e => h (e ▸ List.mem_cons_self)
    have hp : sep ∉ p := fun e => h (List.mem_cons_of_mem _ e)
    simp [splitOn, ih hp, hc]

theorem splitOn_append_sep {sep : Char} {p : Bytes} (rest : Bytes) (h : sep ∉ p) :
    splitOn sep (p ++ sep :: rest) = p :: splitOn sep rest := by
  induction p with
  | nil =>
    obtain ⟨q, qs, he, e⟩ := splitOn_cons sep sep rest
    rw [List.nil_append, e, if_pos rfl, he]
  | cons c p ih =>
    have hc : c ≠ sep := fun e => h (e ▸ List.mem_cons_self)
    have hp : sep ∉ p := fun e => h (List.mem_cons_of_mem _ e)
    simp [splitOn, ih hp, hc]

theorem splitOn_joinWith (parts : List Bytes) (hne : parts ≠ []) (h : ∀ p ∈ parts, ',' ∉ p) :
    splitOn ',' (joinWith ',' parts) = parts := by
  induction parts with
  | nil => contradiction
  | cons p ps ih =>
    cases ps with
    | nil => simpa [joinWith] using splitOn_no_sep ',' p (h p List.mem_cons_self)
    | cons q qs =>
      have hp := h p List.mem_cons_self
      have := ih (by simp) (fun x hx => h x (List.mem_cons_of_mem _ hx))
      rw [joinWith, splitOn_append_sep _ hp, this]
      simp

theorem joinWith_cons_cons (sep c : Char) (p : Bytes) (ps : List Bytes) :
    joinWith sep ((c :: p) :: ps) = c :: joinWith sep (p :: ps) := by
  cases ps <;> rfl

theorem joinWith_splitOn (s : Bytes) : joinWith ',' (splitOn ',' s) = s := by
  induction s with
  | nil => rfl
  | cons c cs ih =>
    obtain ⟨p, ps, he, e⟩ := splitOn_cons ',' c cs
    rw [he] at ih
    rw [e]
    split
    · next hc => rw [hc]; exact congrArg (List.cons ',') ih
    · rw [joinWith_cons_cons, ih]

theorem splitOn_parts_no_sep (sep : Char) (s : Bytes) : ∀ p ∈ splitOn sep s, sep ∉ p := by
  induction s with
  | nil => exact List.forall_mem_cons.2 ⟨List.not_mem_nil, fun _ h => nomatch h⟩
  | cons c cs ih =>
    obtain ⟨q, qs, he, e⟩ := splitOn_cons sep c cs
    rw [he] at ih
    obtain ⟨hq, hqs⟩ := List.forall_mem_cons.1 ih
    rw [e]
    split
    · exact List.forall_mem_cons.2 ⟨List.not_mem_nil, ih⟩
    · next hc =>
      exact List.forall_mem_cons.2 ⟨fun hm => (List.mem_cons.1 hm).elim (fun e => hc e.symm) hq, hqs⟩

theorem stripJunk_joinWith (parts : List Bytes) :
    stripJunk (joinWith ',' parts) = joinWith ',' (parts.map stripJunk) := by
  induction parts with
  | nil => rfl
  | cons p ps ih =>
    cases ps with
    | nil => rfl
    | cons q qs =>
      rw [joinWith, stripJunk, List.filter_append, List.filter_cons_of_pos (by decide)]
      · exact congrArg (fun t => stripJunk p ++ ',' :: t) ih
      · simp

/-- junk is removed part by part: the stripped parts have no comma and join to the stripped string -/
theorem splitOn_stripJunk (s : Bytes) :
    splitOn ',' (stripJunk s) = (splitOn ',' s).map stripJunk := by
  have h := splitOn_joinWith ((splitOn ',' s).map stripJunk)
    (fun h => splitOn_ne_nil ',' s (List.map_eq_nil_iff.1 h))
    (fun p hp => by
      obtain ⟨q, hq, rfl⟩ := List.mem_map.1 hp
      exact stripJunk_no_comma (splitOn_parts_no_sep ',' s q hq))
  rwa [← stripJunk_joinWith, joinWith_splitOn] at h

/-! Texts of component lists, and `frameRangeMatches` on them. -/

theorem forall2_compText_parts {cs : List Comp} {parts : List Bytes} (h : Forall2 CompText cs parts) :
    (cs ≠ [] → parts ≠ []) ∧ (∀ p ∈ parts, ',' ∉ p) ∧ parts.map stripJunk = parts := by
  induction h with
  | nil => exact ⟨fun h => absurd rfl h, fun _ h => (by cases h), rfl⟩
  | cons hab _ ih =>
    refine ⟨fun _ => List.cons_ne_nil _ _, ?_, ?_⟩
    · intro p hp
      rcases List.mem_cons.1 hp with rfl | hp
      · obtain ⟨m, hm, rfl⟩ := hab
        exact matchText_no_comma hm
      · exact ih.2.1 p hp
    · rw [List.map_cons, stripJunk_compText hab, ih.2.2]

theorem rangeText_join {cs : List Comp} {parts : List Bytes} (h : Forall2 CompText cs parts) :
    RangeText cs (joinWith ',' parts) :=
  ⟨parts, h, by rw [stripJunk_joinWith, (forall2_compText_parts h).2.2]⟩

theorem rangeText_iff {cs : List Comp} (hne : cs ≠ []) (txt : Bytes) :
    RangeText cs txt ↔ Forall2 CompText cs (splitOn ',' (stripJunk txt)) := by
  constructor
  · rintro ⟨parts, h, e⟩
    obtain ⟨hparts, hnc, -⟩ := forall2_compText_parts h
    rwa [e, splitOn_joinWith parts (hparts hne) hnc]
  · exact fun h => ⟨_, h, (joinWith_splitOn _).symm⟩

def partStep (p : Bytes) : Except Err Match :=
  match matchPart p with
  | some m => .ok m
  | none => .error .parse

theorem frameRangeMatches_eq (s : Bytes) :
    frameRangeMatches s = (splitOn ',' (stripJunk s)).mapM partStep := rfl

theorem partStep_ok {p : Bytes} {m : Match} : partStep p = .ok m ↔ matchPart p = some m := by
  unfold partStep
  split
  · rename_i m' he; simp [he]
  · rename_i he; simp [he]

theorem mapM_partStep_ok (parts : List Bytes) (ms : List Match) :
    parts.mapM partStep = .ok ms ↔ Forall2 (fun p m => matchPart p = some m) parts ms := by
  rw [mapM_ok_iff]
  simp only [partStep_ok]

theorem frameRangeMatches_complete {cs : List Comp} {txt : Bytes} (hne : cs ≠ [])
    (ht : RangeText cs txt) : ∃ ms, frameRangeMatches txt = .ok ms ∧ Forall2 MatchOf cs ms := by
  rw [rangeText_iff hne] at ht
  clear hne
  rw [frameRangeMatches_eq]
  generalize splitOn ',' (stripJunk txt) = parts at ht
  induction ht with
  | nil => exact ⟨[], rfl, .nil⟩
  | cons hab _ ih =>
    obtain ⟨ms, h1, h2⟩ := ih
    obtain ⟨m, hm, rfl⟩ := hab
    refine ⟨m :: ms, ?_, .cons hm h2⟩
    rw [List.mapM_cons, partStep_ok.2 (matchPart_complete hm), h1]
    rfl

theorem frameRangeMatches_sound (txt : Bytes) (ms : List Match) (h : frameRangeMatches txt = .ok ms) :
    ∃ cs, cs ≠ [] ∧ RangeText cs txt ∧ Forall2 MatchOf cs ms := by
  rw [frameRangeMatches_eq] at h
  have h1 := (mapM_partStep_ok _ _).1 h
  have key : ∀ (parts : List Bytes) (ms : List Match),
      Forall2 (fun p m => matchPart p = some m) parts ms →
      ∃ cs, (parts ≠ [] → cs ≠ []) ∧ Forall2 CompText cs parts ∧ Forall2 MatchOf cs ms := by
    intro parts ms hf
    induction hf with
    | nil => exact ⟨[], fun h => absurd rfl h, .nil, .nil⟩
    | cons hab _ ih =>
      obtain ⟨cs, -, h2, h3⟩ := ih
      obtain ⟨e, c, hc⟩ := matchPart_sound hab
      exact ⟨c :: cs, fun _ => by simp, .cons ⟨_, hc, e⟩ h2, .cons hc h3⟩
  obtain ⟨cs, hne, h2, h3⟩ := key _ _ h1
  exact ⟨cs, hne (splitOn_ne_nil _ _), ⟨_, h2, (joinWith_splitOn _).symm⟩, h3⟩

end Gfs.Proofs
