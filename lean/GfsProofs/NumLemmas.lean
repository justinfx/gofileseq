/-
  GfsProofs.NumLemmas — numerals.  Every number the library writes (`strconv.Itoa`, `zfillInt`) is
  `renderNum n k` for some count `k` of extra zeros (printf's `%0Nd`, `Spec.zfillSpec`, is one too:
  PadLemmas, where its definition is imported); `NumText` is what the parser reads, and a numeral
  has one value; `takeNum` and Atoi on numerals.
-/
import GfsSpec.Grammar
import GfsProofs.DigitLemmas

namespace Gfs.Proofs
open Gfs Gfs.Spec

theorem digit_ne_minus {d : Char} (h : isDigit d = true) : d ≠ '-' := ne_of_isDigit h (by decide)

theorem renderNum_numText (n : Int) (k : Nat) : NumText n (renderNum n k) := by
  refine ⟨decide (n < 0), List.replicate k '0' ++ natDigits n.natAbs, ?_, ?_, ?_, ?_⟩
  · exact fun h => natDigits_ne_nil _ (List.append_eq_nil_iff.mp h).2
  · intro c hc
    rcases List.mem_append.mp hc with hc | hc
    · rw [(List.mem_replicate.mp hc).2]; rfl
    · exact natDigits_all_digit _ c hc
  · simp only [renderNum, decide_eq_true_eq, List.append_assoc]
  · rw [digitsToNat_replicate_zero_append, digitsToNat_natDigits]
    by_cases h : n < 0 <;> simp only [h, decide_true, decide_false, if_true, Bool.false_eq_true,
      if_false] <;> omega

theorem numText_unique {a b : Int} {t : Bytes} (ha : NumText a t) (hb : NumText b t) : a = b := by
  obtain ⟨neg, ds, hne, hd, rfl, rfl⟩ := ha
  obtain ⟨neg', ds', hne', hd', he, rfl⟩ := hb
  have key : neg = neg' ∧ ds = ds' := by
    cases ds with
    | nil => contradiction
    | cons d ds =>
      cases ds' with
      | nil => contradiction
      | cons d' ds' =>
        have h1 := digit_ne_minus (hd d List.mem_cons_self)
        have h2 := digit_ne_minus (hd' d' List.mem_cons_self)
        cases neg <;> cases neg' <;>
          simp only [if_true, Bool.false_eq_true, if_false, List.nil_append, List.cons_append,
            List.cons.injEq] at he
        · exact ⟨rfl, by rw [he.1, he.2]⟩
        · exact absurd he.1 h1
        · exact absurd he.1.symm h2
        · exact ⟨rfl, by rw [he.2.1, he.2.2]⟩
  rw [key.1, key.2]

theorem itoa_eq_renderNum (n : Int) : itoa n = renderNum n 0 := by
  unfold itoa renderNum
  split <;> rfl

theorem renderNum_length (n : Int) (k : Nat) : (renderNum n k).length = (itoa n).length + k := by
  rw [itoa_eq_renderNum]
  simp only [renderNum, List.length_append, List.length_replicate]
  omega

theorem itoa_length_pos (n : Int) : 0 < (itoa n).length := by
  have := natDigits_length_pos n.natAbs
  rw [itoa_eq_renderNum]
  simp only [renderNum, List.length_append]
  omega

theorem zfillInt_eq_renderNum (f z : Int) :
    zfillInt f z = renderNum f (z.toNat - (itoa f).length) := by
  have hpos := itoa_length_pos f
  unfold zfillInt
  split
  · rw [Nat.sub_eq_zero_of_le (Int.toNat_le.mpr (by omega))]; exact itoa_eq_renderNum f
  · unfold itoa renderNum
    split <;> simp only [List.length_cons, List.cons_append, List.nil_append]

theorem zfillInt_short (v w : Int) (h : w ≤ (itoa v).length) : zfillInt v w = itoa v := by
  rw [zfillInt_eq_renderNum, Nat.sub_eq_zero_of_le (Int.toNat_le.mpr h), ← itoa_eq_renderNum]

theorem itoa_numText (n : Int) : NumText n (itoa n) :=
  itoa_eq_renderNum n ▸ renderNum_numText n 0

theorem zfillInt_numText (f z : Int) : NumText f (zfillInt f z) :=
  zfillInt_eq_renderNum f z ▸ renderNum_numText f _

theorem itoa_injective (a b : Int) (h : itoa a = itoa b) : a = b :=
  numText_unique (h ▸ itoa_numText a) (itoa_numText b)

theorem zfillInt_length (f z : Int) : z ≤ (zfillInt f z).length := by
  rw [zfillInt_eq_renderNum, renderNum_length]
  exact Int.le_trans (Int.self_le_toNat z) (Int.ofNat_le.mpr (Nat.sub_le_iff_le_add'.mp (Nat.le_refl _)))

/-- "-0", "-00", …: the one kind of numeral that `renderNum` never writes -/
def NegZero (t : Bytes) : Prop := ∃ zs, zs ≠ [] ∧ (∀ c ∈ zs, c = '0') ∧ t = '-' :: zs

theorem numText_renderNum {n : Int} {t : Bytes} (h : NumText n t) (hz : ¬ NegZero t) :
    ∃ k, t = renderNum n k := by
  obtain ⟨neg, ds, hne, hd, rfl, rfl⟩ := h
  obtain ⟨k, key⟩ := zeros_natDigits_digitsToNat ds hne hd
  refine ⟨k, ?_⟩
  cases neg with
  | false =>
    simp only [Bool.false_eq_true, if_false, List.nil_append]
    rw [renderNum, if_neg (by omega), Int.natAbs_natCast, List.nil_append, key]
  | true =>
    -- digits of value 0 are all '0'
    have hnz : digitsToNat ds ≠ 0 := fun e => hz ⟨ds, hne, fun c hc => by
      rw [e, natDigits_zero] at key
      rw [← key] at hc
      exact (List.mem_append.mp hc).elim (fun h => (List.mem_replicate.mp h).2) List.mem_singleton.mp, rfl⟩
    simp only [if_true]
    rw [renderNum, if_pos (by omega), Int.natAbs_neg, Int.natAbs_natCast, List.append_assoc, key]

theorem numText_zfill {n : Int} {t : Bytes} (h : NumText n t) (hz : ¬ NegZero t) :
    zfillInt n t.length = t := by
  obtain ⟨k, rfl⟩ := numText_renderNum h hz
  rw [zfillInt_eq_renderNum, Int.toNat_natCast, renderNum_length, Nat.add_sub_cancel_left]

theorem numText_eq_itoa {n : Int} {t : Bytes} (h : NumText n t) (hz : ¬ NegZero t)
    (hl : t.length ≤ (itoa n).length) : t = itoa n := by
  obtain ⟨k, rfl⟩ := numText_renderNum h hz
  rw [renderNum_length] at hl
  rw [show k = 0 by omega, itoa_eq_renderNum]

theorem numText_natAbs_lt {n : Int} {t : Bytes} (h : NumText n t) :
    1 ≤ t.length ∧ n.natAbs < 10 ^ t.length := by
  obtain ⟨neg, ds, hne, hd, rfl, rfl⟩ := h
  have hpos := List.length_pos_iff.mpr hne
  have hlt := digitsToNat_lt ds hd
  have hle : 10 ^ ds.length ≤ 10 ^ ((if neg then ['-'] else []) ++ ds).length :=
    Nat.pow_le_pow_right (by decide) (by rw [List.length_append]; omega)
  refine ⟨by rw [List.length_append]; omega, Nat.lt_of_lt_of_le ?_ hle⟩
  cases neg
  · simpa using hlt
  · simpa using hlt

theorem takeNum_eq (s : Bytes) : ∃ (neg : Bool) (r : Bytes), s = (if neg then ['-'] else []) ++ r ∧
    takeNum s = if (r.takeWhile isDigit).isEmpty then none
      else some ((if neg then ['-'] else []) ++ r.takeWhile isDigit, r.dropWhile isDigit) := by
  unfold takeNum
  split
  next sign r heq =>
  split at heq
  · cases heq; exact ⟨true, _, rfl, rfl⟩
  · cases heq; exact ⟨false, _, rfl, rfl⟩

theorem takeNum_minus (r : Bytes) :
    takeNum ('-' :: r) = (if (r.takeWhile isDigit).isEmpty then none
      else some ('-' :: r.takeWhile isDigit, r.dropWhile isDigit)) :=
  rfl

theorem takeNum_nosign (s : Bytes) (h : ∀ c ∈ s.head?, c ≠ '-') :
    takeNum s = (if (s.takeWhile isDigit).isEmpty then none
      else some (s.takeWhile isDigit, s.dropWhile isDigit)) := by
  obtain ⟨neg, r, rfl, e⟩ := takeNum_eq s
  cases neg
  · exact e
  · exact absurd rfl (h '-' rfl)

theorem takeNum_numText {n : Int} {t : Bytes} (h : NumText n t) (rest : Bytes)
    (hr : ∀ c ∈ rest.head?, isDigit c = false) : takeNum (t ++ rest) = some (t, rest) := by
  obtain ⟨neg, ds, hne, hd, rfl, -⟩ := h
  obtain ⟨h1, h2⟩ := takeWhile_dropWhile_stop isDigit ds rest hd hr
  cases neg
  · rw [takeNum_nosign]
    · simp [h1, h2, hne]
    · cases ds with
      | nil => contradiction
      | cons d ds' =>
        have := digit_ne_minus (hd d List.mem_cons_self)
        simpa using this
  · simp only [if_true, List.cons_append, List.nil_append]
    rw [takeNum_minus]
    simp [h1, h2, hne]

theorem takeNum_numText_nil {n : Int} {t : Bytes} (h : NumText n t) : takeNum t = some (t, []) := by
  have := takeNum_numText h [] (by simp)
  rwa [List.append_nil] at this

theorem takeNum_sound {s t r : Bytes} (h : takeNum s = some (t, r)) :
    s = t ++ r ∧ ∃ n, NumText n t := by
  obtain ⟨neg, r0, rfl, e⟩ := takeNum_eq s
  rw [e] at h
  split at h
  · contradiction
  · next hne =>
    cases h
    exact ⟨by rw [List.append_assoc, List.takeWhile_append_dropWhile],
      _, neg, _, by simpa using hne, mem_takeWhile_pred _ _, rfl, rfl⟩

theorem atoi_numText (n : Int) (t : Bytes) (h : NumText n t) :
    atoi t = if minInt64 ≤ n ∧ n ≤ maxInt64 then some n else none := by
  obtain ⟨neg, ds, hne, hd, rfl, rfl⟩ := h
  have hall : ds.all isDigit = true := List.all_eq_true.mpr hd
  have hemp : ds.isEmpty = false := by simpa using hne
  cases neg
  · obtain ⟨d, ds', rfl⟩ := List.exists_cons_of_ne_nil hne
    have h1 := digit_ne_minus (hd d List.mem_cons_self)
    have h2 : d ≠ '+' := ne_of_isDigit (hd d List.mem_cons_self) (by decide)
    simp [atoi, h1, h2, hall]
  · simp [atoi, hall, hemp]

theorem atoi_digits (ds : Bytes) (hne : ds ≠ []) (hd : ∀ c ∈ ds, isDigit c = true) :
    atoi ds = if (digitsToNat ds : Int) ≤ maxInt64 then some (digitsToNat ds : Int) else none := by
  have hmin : minInt64 ≤ ((digitsToNat ds : Nat) : Int) := by unfold minInt64; omega
  rw [atoi_numText ((digitsToNat ds : Nat) : Int) ds ⟨false, ds, hne, hd, rfl, rfl⟩]
  simp only [hmin, true_and]

theorem atoi_nil : atoi [] = none := by
  simp [atoi]

end Gfs.Proofs
