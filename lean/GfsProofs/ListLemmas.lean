/-
  GfsProofs.ListLemmas — C05 on items: the exact cover (`findInItems_cover`), the single-files
  option (`findInItems_single`), hidden names (`findInItems_visible`), each from the closed form
  `ListAux.findInItems_eq`, as is the directory every result carries (`findInItems_dirs`); and
  what ties `findSequencesInList` on paths to `findInItems` on items.
-/
import GfsProofs.ListScan

namespace Gfs.Proofs
open Gfs Gfs.Spec

def FileItem.path (it : FileItem) : Bytes := it.dir ++ it.name

def visibleItem (o : ListOpts) (it : FileItem) : Bool := o.hidden || !isPrefixOf ['.'] it.name

/-- the frame token the optional-frame pattern finds in a file name ([] when none) -/
def tokenOf (name : Bytes) : Bytes := match optFrame name with | some (_, fr, _) => fr | none => []

/-- The guard of the exact-cover theorem (decidable): the frame token of every name is short
    enough for its value and every difference of two such values to fit an int (at most 17 bytes,
    the sign included), and is not a negative zero ("-0", "-00", …; the recorded finding). -/
def TameName (name : Bytes) : Prop :=
  (tokenOf name).length ≤ 17 ∧
  ¬ (∃ zs, zs ≠ [] ∧ (∀ c ∈ zs, c = '0') ∧ tokenOf name = '-' :: zs)

def expandSeqs (l : List Seq) : List Bytes := l.flatMap Seq.paths

namespace ListAux

theorem tokenOf_parts (it : FileItem) : tokenOf it.name = (parts it).2.1 := by
  unfold tokenOf parts
  cases optFrame it.name with
  | none => rfl
  | some t => obtain ⟨b, fr, e⟩ := t; rfl

theorem tame_item (it : FileItem) (h : TameName it.name) : ItemTame it := by
  unfold ItemTame
  rw [← tokenOf_parts]
  cases hm : optFrame it.name with
  | none => left; simp [tokenOf, hm]
  | some t =>
    obtain ⟨b, fr, e⟩ := t
    have htk : tokenOf it.name = fr := by simp [tokenOf, hm]
    rw [htk]
    exact (optFrame_concat it.name b fr e hm).2.imp_right fun hn => ⟨hn, htk ▸ h.2, htk ▸ h.1⟩

theorem visibleItem_eq (o : ListOpts) (it : FileItem) : visibleItem o it = !hiddenSkip o it := by
  unfold visibleItem hiddenSkip
  cases o.hidden <;> cases isPrefixOf ['.'] it.name <;> rfl

end ListAux

open ListAux Order

/-- C05's exact cover in its general form: any options, tameness asked of the visible names only
    (`findInItems_cover_single` is the case C05_cover_partial and C06_cover_partial state). -/
theorem findInItems_cover (items : List FileItem) (o : ListOpts)
    (hd : (items.map FileItem.path).Nodup)
    (ht : ∀ it ∈ items, visibleItem o it = true → TameName it.name) :
    ∃ seqs, findInItems items o none = .ok seqs ∧
      List.Perm (expandSeqs seqs)
        ((items.filter fun it => visibleItem o it && (o.single || itemOk it)).map FileItem.path) := by
  have ht' : ∀ it ∈ items, (!hiddenSkip o it) = true → ItemTame it := fun it h hv =>
    tame_item it (ht it h (visibleItem_eq o it ▸ hv))
  refine ⟨_, findInItems_eq items o, ?_⟩
  -- the buckets stand for the paths of the items that go to them
  have hB : ((bucketsOf o items).flatMap bucketPaths).Perm
      ((items.filter (bucketable o)).map FileItem.path) :=
    fold_paths o.style _ [] fun it h => (Bool.and_eq_true _ _ ▸ (List.mem_filter.1 h).2).2
  -- which are pairwise distinct, hence so are the tokens within each bucket
  have hbnd : ∀ b ∈ bucketsOf o items, (b.frames.map (·.frame)).Nodup := by
    intro b hb
    have h1 : (bucketPaths b).Nodup :=
      (hB.nodup_iff.2 (hd.sublist (List.filter_sublist.map _))).sublist
        (sublist_flatMap_of_mem bucketPaths _ b hb)
    refine List.Pairwise.of_map (S := (· ≠ ·)) (fun t => b.dir ++ b.base ++ t ++ b.ext)
      (fun _ _ h e => h (by rw [e])) ?_
    rw [List.map_map]
    exact h1
  have hbwf := (inv_bucketsOf o items).bwf fun it hit hb => ht' it hit (Bool.and_eq_true _ _ ▸ hb).1
  have hbuckets : (expandSeqs ((bucketsOf o items).map (bucketSeqs o.style)).flatten).Perm
      ((items.filter (bucketable o)).map FileItem.path) := by
    rw [expandSeqs, ← List.flatMap_def, List.flatMap_assoc]
    exact (perm_flatMap_left _ _ _ fun b hb =>
      bucket_cover o.style b (hbwf b hb) (hbnd b hb)).trans hB
  cases hs : o.single with
  | false =>
    rw [if_neg Bool.false_ne_true, List.append_nil,
      List.filter_congr fun it _ => show (visibleItem o it && (false || itemOk it)) = bucketable o it by
        rw [visibleItem_eq]; rfl]
    exact hbuckets
  | true =>
    rw [if_pos rfl, List.filter_congr fun it _ =>
      show (visibleItem o it && (true || itemOk it)) = !hiddenSkip o it by
        rw [visibleItem_eq, Bool.true_or, Bool.and_true]]
    -- the visible items are those that go to buckets and those that become single files
    have hV := (List.filter_append_perm (fun it => itemOk it) items).filter (fun it => !hiddenSkip o it)
    rw [List.filter_append, List.filter_filter, List.filter_filter] at hV
    refine List.Perm.trans ?_ (hV.map _)
    rw [expandSeqs, List.flatMap_append, List.map_append]
    refine hbuckets.append ?_
    -- a single file stands for its own path
    unfold singlesOf
    rw [List.flatMap_map, List.map_eq_flatMap]
    refine perm_flatMap_left _ _ _ fun it hit => List.Perm.of_eq ?_
    have hf := Bool.and_eq_true _ _ ▸ (List.mem_filter.1 hit).2
    exact (itemSeq_facts o.style it (ht' it (List.mem_filter.1 hit).1 hf.1)
      (Bool.not_eq_true' _ ▸ hf.2)).1

theorem findInItems_cover_single (items : List FileItem) (o : ListOpts) (hs : o.single = true)
    (hd : (items.map FileItem.path).Nodup) (ht : ∀ it ∈ items, TameName it.name) :
    ∃ seqs, findInItems items o none = .ok seqs ∧
      List.Perm (expandSeqs seqs) ((items.filter (visibleItem o)).map FileItem.path) := by
  simpa [hs] using findInItems_cover items o hd fun it h _ => ht it h

theorem findInItems_single (items : List FileItem) (o : ListOpts) :
    findInItems items { o with single := true } none =
      .ok (((bucketsOf o items).map (bucketSeqs o.style)).flatten ++
        singlesOf { o with single := true } items) ∧
    findInItems items { o with single := false } none =
      .ok ((bucketsOf o items).map (bucketSeqs o.style)).flatten :=
  ⟨findInItems_eq items _, (findInItems_eq items _).trans (congrArg Except.ok (List.append_nil _))⟩

theorem findInItems_no_single (items : List FileItem) (o : ListOpts)
    (ht : ∀ it ∈ items, TameName it.name) :
    ∃ all, findInItems items { o with single := true } none = .ok all ∧
      findInItems items { o with single := false } none = .ok (all.filter isNumbered) := by
  have ht' : ∀ it ∈ items, ItemTame it := fun it h => tame_item it (ht it h)
  obtain ⟨h1, h2⟩ := findInItems_single items o
  refine ⟨_, h1, ?_⟩
  rw [h2, List.filter_append]
  -- every sequence of a bucket is numbered, no single file is
  have e1 : (((bucketsOf o items).map (bucketSeqs o.style)).flatten).filter isNumbered =
      ((bucketsOf o items).map (bucketSeqs o.style)).flatten := by
    refine List.filter_eq_self.2 fun s hs => ?_
    obtain ⟨l, hl, hsl⟩ := List.mem_flatten.mp hs
    obtain ⟨b, hbm, rfl⟩ := List.mem_map.mp hl
    have hb := (inv_bucketsOf o items).bwf (fun it hit _ => ht' it hit) b hbm
    have q1 := bucket_numbered o.style b hb s hsl
    obtain ⟨_, q2, q3⟩ := bucketSeqs_key o.style b s hsl
    simpa [isNumbered, q1, q2, q3] using Decidable.not_and_iff_or_not.1 hb.key
  have e2 : (singlesOf { o with single := true } items).filter isNumbered = [] := by
    refine List.filter_eq_nil_iff.2 fun s hs => ?_
    obtain ⟨it, hit, rfl⟩ := List.mem_map.1 hs
    have hf := (List.mem_filter.1 hit).2
    simp only [Bool.and_eq_true, Bool.not_eq_true'] at hf
    rw [(itemSeq_facts o.style it (ht' it (List.mem_filter.1 hit).1) hf.2).2]
    exact Bool.false_ne_true
  rw [e1, e2, List.append_nil]

theorem findInItems_visible (items : List FileItem) (o : ListOpts) :
    findInItems (items.filter fun it => !hiddenSkip o it) o none = findInItems items o none := by
  -- neither the items that go to buckets nor the single files are among those filtered out
  have e : ∀ q : FileItem → Bool, (∀ it, q it = true → (!hiddenSkip o it) = true) →
      (items.filter fun it => !hiddenSkip o it).filter q = items.filter q := by
    intro q hq
    rw [List.filter_filter]
    refine List.filter_congr fun it _ => ?_
    cases h : q it
    · rfl
    · exact hq it h
  rw [findInItems_eq, findInItems_eq, bucketsOf, bucketsOf, singlesOf, singlesOf,
    e _ fun it h => (Bool.and_eq_true _ _ ▸ h).1, e _ fun it h => (Bool.and_eq_true _ _ ▸ h).1]

theorem findInItems_dirs (items : List FileItem) (o : ListOpts) (seqs : List Seq)
    (h : findInItems items o none = .ok seqs) :
    ∀ s ∈ seqs, ∃ it ∈ items, s.dir = it.dir := by
  rw [findInItems_eq] at h
  injection h with h
  subst h
  intro s hs
  rcases List.mem_append.1 hs with hs | hs
  · -- a bucket has the key of one of the items
    obtain ⟨l, hl, hsl⟩ := List.mem_flatten.1 hs
    obtain ⟨b, hb, rfl⟩ := List.mem_map.1 hl
    obtain ⟨t, ht, _⟩ := ((inv_bucketsOf o items).each b hb).wit
    obtain ⟨it, hit, _, hk, _⟩ := mem_toksFor ht
    exact ⟨it, hit, (bucketSeqs_key _ _ _ hsl).1.trans (congrArg Prod.fst hk).symm⟩
  · split at hs
    · obtain ⟨it, hit, rfl⟩ := List.mem_map.1 hs
      refine ⟨it, (List.mem_filter.1 hit).1, ?_⟩
      unfold itemSeq
      split <;> exact (rebuild_key ..).1
    · cases hs

theorem findSequencesInList_items (paths : List Bytes) (o : ListOpts) :
    findSequencesInList paths o =
      findInItems (paths.map fun p => ⟨(pathSplit (pathClean p)).1, (pathSplit (pathClean p)).2⟩) o none :=
  rfl

end Gfs.Proofs
