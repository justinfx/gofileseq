/-
  GfsProofs.DiskLemmas — the directory scan: on a readable directory without dangling links
  `scanDir` is the listing of the entries it keeps, each under the directory prefix (`scanDir_ok`),
  and that prefix ends in a separator (`dirPrefix_sep`).
-/
import GfsModel.Disk

namespace Gfs.Proofs
open Gfs

/-- the filter inside `scanDir`, as a Bool function (`filter_kept`) -/
def keptEntry (e : Entry) : Bool := e.kind = .file || e.kind = .linkFile

theorem scanDir_ok (entries : List Entry) (arg : Bytes) (o : ListOpts) (tmpl : Option Seq)
    (hd : ∀ e ∈ entries, e.kind ≠ .dangling) :
    scanDir (some entries) arg o tmpl =
      findInItems ((entries.filter fun e => e.kind = .file ∨ e.kind = .linkFile).map
        fun e => ⟨dirPrefix arg, e.name⟩) o tmpl := by
  have hany : entries.any (fun e => decide (e.kind = .dangling)) = false :=
    List.any_eq_false.2 fun e he => by simpa using hd e he
  simp only [scanDir, hany]
  rfl

theorem filter_kept (entries : List Entry) :
    (entries.filter fun e => e.kind = .file ∨ e.kind = .linkFile) = entries.filter keptEntry :=
  List.filter_congr fun e _ => by simp [keptEntry]

theorem dirPrefix_sep (arg : Bytes) : isSuffixOf ['/'] (dirPrefix arg) = true := by
  unfold dirPrefix
  simp only
  split
  · assumption
  · simp [isSuffixOf, isPrefixOf]

end Gfs.Proofs
