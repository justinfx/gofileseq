/-
  GfsProofs.SplitLemmas — `splitSeq` on the unambiguous domain of C03: the scan stops at the first
  position where a pad token starts, no character of dir ++ base ++ range can start one, the
  token read there is the whole `pad` because an extension starts with '.', and the range is the
  longest range-like suffix of what precedes it.  Also: the parts `pathSplit` / `splitLastDot` return
  concatenate to their input, and the scan finds a pad token wherever there is a pad character.
-/
import GfsProofs.PadLemmas

namespace Gfs.Proofs
open Gfs Gfs.Spec

theorem pathSplit_dir_base (dir base : Bytes)
    (hd : dir = [] ∨ isSuffixOf ['/'] dir = true) (hb : '/' ∉ base) :
    pathSplit (dir ++ base) = (dir, base) := by
  have hstop : ∀ c ∈ dir.reverse.head?, decide (c ≠ '/') = false := by
    rcases hd with rfl | hd
    · intro c hc; cases hc
    · obtain ⟨r, rfl⟩ := isSuffixOf_iff.mp hd
      rw [List.reverse_append]
      intro c hc; cases hc; decide
  have hall : ∀ c ∈ base.reverse, decide (c ≠ '/') = true :=
    fun c hc => decide_eq_true fun e => hb (e ▸ List.mem_reverse.mp hc)
  obtain ⟨h1, h2⟩ := takeWhile_dropWhile_stop (fun c => decide (c ≠ '/')) base.reverse dir.reverse hall hstop
  unfold pathSplit
  simp only [List.reverse_append]
  rw [h1, h2]
  simp

theorem pathSplit_concat (p : Bytes) : (pathSplit p).1 ++ (pathSplit p).2 = p := by
  unfold pathSplit
  simp only
  rw [← List.reverse_append, List.takeWhile_append_dropWhile, List.reverse_reverse]

theorem splitLastDot_concat {s b e : Bytes} (h : splitLastDot s = some (b, e)) : b ++ e = s := by
  unfold splitLastDot at h
  split at h
  · simp only at h
    split at h
    · rename_i x baseRev hr
      cases h
      have hx : x = '.' := by
        have := List.head?_dropWhile_not (fun c => decide (c ≠ '.')) s.reverse
        rw [hr] at this
        simpa using this
      have := List.takeWhile_append_dropWhile (p := fun c => decide (c ≠ '.')) (l := s.reverse)
      rw [hr, hx] at this
      have h2 := congrArg List.reverse this
      simp only [List.reverse_append, List.reverse_cons, List.reverse_reverse,
        List.append_assoc] at h2
      simpa using h2
    · cases h
  · cases h

theorem lastDot_concat {file base ext : Bytes}
    (h : (match splitLastDot file with | some (b, e) => (b, e) | none => (file, [])) = (base, ext)) :
    base ++ ext = file := by
  cases hsl : splitLastDot file with
  | none => rw [hsl] at h; cases h; exact List.append_nil file
  | some be => rw [hsl] at h; cases h; exact splitLastDot_concat hsl

theorem udimTail_toList : "(UDIM)d".toList = ['(','U','D','I','M',')','d'] := String.toList_ofList

/-- `padTokenAt` by its first character.  The string literals are spelt out as character lists:
    a `"…".toList` is evaluated anew, at some cost, wherever a proof meets it. -/
theorem padTokenAt_cons (c : Char) (r : Bytes) :
    padTokenAt (c :: r) =
      if c = '#' ∨ c = '@' then
        some ((c :: r).takeWhile (fun c => c = '#' || c = '@'), (c :: r).dropWhile (fun c => c = '#' || c = '@'))
      else if c = '%' then
        match r.dropWhile isDigit with
        | 'd' :: r' => some ('%' :: r.takeWhile isDigit ++ ['d'], r')
        | _ =>
          if isPrefixOf ['(','U','D','I','M',')','d'] r then some (['%','(','U','D','I','M',')','d'], r.drop 7)
          else none
      else if c = '$' then
        match r with
        | 'F' :: r' => some ('$' :: 'F' :: r'.takeWhile isDigit, r'.dropWhile isDigit)
        | _ => none
      else if isPrefixOf ['<','U','D','I','M','>'] (c :: r) then some (['<','U','D','I','M','>'], (c :: r).drop 6)
      else none := by
  rw [padTokenAt.eq_def, udimAngle_toList, udimPrintf_toList, udimTail_toList]
  rfl

/-- A documented token in front of an extension is read whole: the run of digits or pad characters
    it ends in stops at the extension's dot. -/
theorem padTokenAt_token (pad ext : Bytes) (t : PadTok) (h : classifyPad pad = some t)
    (he : ∀ c ∈ ext.head?, c = '.') :
    padTokenAt (pad ++ ext) = some (pad, ext) := by
  rcases classifyPad_inv h with ⟨-, rfl⟩ | ⟨-, rfl⟩ | ⟨ds, hd, -, -, rfl⟩ | ⟨ds, hd, -, -, rfl⟩ | ⟨hne, hc, -⟩
  · rw [List.cons_append, padTokenAt_cons, if_neg (by decide), if_neg (by decide), if_neg (by decide)]
    rfl
  · rw [List.cons_append, padTokenAt_cons, if_neg (by decide), if_pos rfl]
    rfl
  · obtain ⟨h1, h2⟩ := takeWhile_dropWhile_stop isDigit ds ('d' :: ext) hd (fun c hc => by cases hc; decide)
    rw [List.cons_append, List.cons_append, List.append_assoc, List.singleton_append, padTokenAt_cons,
      if_neg (by decide), if_pos rfl]
    simp only [h1, h2]
    rfl
  · obtain ⟨h1, h2⟩ := takeWhile_dropWhile_stop isDigit ds ext hd (fun c hc => by rw [he c hc]; rfl)
    rw [List.cons_append, padTokenAt_cons, if_neg (by decide), if_neg (by decide), if_pos rfl]
    simp only [List.cons_append, h1, h2]
  · cases pad with
    | nil => exact absurd rfl hne
    | cons c r =>
      have hall : ∀ x ∈ c :: r, (x = '#' || x = '@') = true := by
        intro x hx; simpa using hc x hx
      obtain ⟨h1, h2⟩ := takeWhile_dropWhile_stop (fun x => x = '#' || x = '@') (c :: r) ext hall
        (fun c hc => by rw [he c hc]; rfl)
      rw [List.cons_append, padTokenAt_cons, if_pos (hc c List.mem_cons_self), ← List.cons_append, h1, h2]

/-- the first characters of the `<pad>` alternation of `splitPattern` -/
def isPadStart (c : Char) : Bool := c = '#' || c = '@' || c = '%' || c = '$' || c = '<'

theorem isPadStart_eq_false {c : Char} :
    isPadStart c = false ↔ c ≠ '#' ∧ c ≠ '@' ∧ c ≠ '%' ∧ c ≠ '$' ∧ c ≠ '<' := by
  simp only [isPadStart, Bool.or_eq_false_iff, decide_eq_false_iff_not, and_assoc]

theorem padTokenAt_none {c : Char} (h : isPadStart c = false) (r : Bytes) :
    padTokenAt (c :: r) = none := by
  obtain ⟨h1, h2, h3, h4, h5⟩ := isPadStart_eq_false.mp h
  rw [padTokenAt_cons, if_neg (not_or.mpr ⟨h1, h2⟩), if_neg h3, if_neg h4]
  simp [isPrefixOf, Ne.symm h5]

theorem findPad_append (pre rest : Bytes) (hpre : ∀ c ∈ pre, isPadStart c = false) (acc : Bytes) :
    findPad acc (pre ++ rest) = findPad (pre.reverse ++ acc) rest := by
  induction pre generalizing acc with
  | nil => rfl
  | cons c pre ih =>
    rw [List.cons_append, findPad, padTokenAt_none (hpre c List.mem_cons_self),
      ih (fun x hx => hpre x (List.mem_cons_of_mem _ hx)), List.reverse_cons, List.append_assoc]
    rfl

theorem findPad_token {rest tok r : Bytes} (acc : Bytes) (h : padTokenAt rest = some (tok, r)) :
    findPad acc rest = some (acc.reverse, tok, r) := by
  cases rest with
  | nil => cases h
  | cons c rs => rw [findPad, h]

theorem findPad_isSome : ∀ (s acc : Bytes), (∃ c ∈ s, c = '#' ∨ c = '@') → ∃ r, findPad acc s = some r
  | [], _, h => by obtain ⟨c, hc, _⟩ := h; cases hc
  | c :: r, acc, h => by
    by_cases hc : c = '#' ∨ c = '@'
    · exact ⟨_, findPad_token acc (by rw [padTokenAt_cons, if_pos hc])⟩
    · rw [findPad]
      cases padTokenAt (c :: r) with
      | some t => exact ⟨_, rfl⟩
      | none =>
        obtain ⟨d, hd, hdd⟩ := h
        rcases List.mem_cons.1 hd with rfl | hd
        · exact absurd hdd hc
        · exact findPad_isSome r (c :: acc) ⟨d, hd, hdd⟩

theorem rangeChar_not_padStart {c : Char} (h : isRangeChar c = true) :
    c ≠ '\n' ∧ isPadStart c = false := by
  refine ⟨?_, isPadStart_eq_false.mpr ⟨?_, ?_, ?_, ?_, ?_⟩⟩
  all_goals
    intro hc
    subst hc
    revert h
    decide

theorem plainRange_chars {r : Bytes} (h : plainRange r = true) :
    (∀ c ∈ r, isRangeChar c = true) ∧ ∀ c ∈ r.head?, isRangeStart c = true := by
  unfold plainRange at h
  simp only [Bool.and_eq_true, List.all_eq_true] at h
  refine ⟨h.1, ?_⟩
  intro c hc
  cases r with
  | nil => cases hc
  | cons c r => cases hc; exact h.2

/-- The range is found again behind a name: going back from the pad token over range characters
    one passes all of `rng` and then a tail of `name` in which no range can start. -/
theorem range_split (name rng : Bytes)
    (hn : ∀ c ∈ name.reverse.takeWhile isRangeChar, isRangeStart c = false)
    (hr : ∀ c ∈ rng, isRangeChar c = true) (hr0 : ∀ c ∈ rng.head?, isRangeStart c = true) :
    ((name ++ rng).reverse.dropWhile isRangeChar).reverse ++
      (((name ++ rng).reverse.takeWhile isRangeChar).reverse.takeWhile
        (fun c => !isRangeStart c)) = name ∧
    ((name ++ rng).reverse.takeWhile isRangeChar).reverse.dropWhile
        (fun c => !isRangeStart c) = rng := by
  have hall : ∀ c ∈ rng.reverse, isRangeChar c = true := fun c hc => hr c (List.mem_reverse.mp hc)
  have hn' : ∀ c ∈ (name.reverse.takeWhile isRangeChar).reverse, (!isRangeStart c) = true :=
    fun c hc => by rw [hn c (List.mem_reverse.mp hc)]; rfl
  obtain ⟨h1, h2⟩ := takeWhile_dropWhile_stop (fun c => !isRangeStart c) _ rng hn'
    (fun c hc => by rw [hr0 c hc]; rfl)
  rw [List.reverse_append, List.takeWhile_append_of_pos hall, List.dropWhile_append_of_pos hall,
    List.reverse_append, List.reverse_reverse, h1, h2, ← List.reverse_append,
    List.takeWhile_append_dropWhile, List.reverse_reverse]
  exact ⟨rfl, rfl⟩

/-- `Spec.unambig`, each clause in the form the proofs use -/
structure UnambigFacts (dir base rng pad ext : Bytes) : Prop where
  hdir : dir = [] ∨ isSuffixOf ['/'] dir = true
  hbase : '/' ∉ base
  hname : ∀ c ∈ dir ++ base, c ≠ '\n' ∧ isPadStart c = false
  htail : ∀ c ∈ (dir ++ base).reverse.takeWhile isRangeChar, isRangeStart c = false
  hrng : ∀ c ∈ rng, isRangeChar c = true
  hrng0 : ∀ c ∈ rng.head?, isRangeStart c = true
  hparse : rng = [] ∨ ((FrameSet.parse rng).toOption).isSome = true
  hpad : ∃ t, classifyPad pad = some t
  hext0 : ∀ c ∈ ext.head?, c = '.'
  hext : '\n' ∉ ext

theorem unambig_facts {dir base rng pad ext : Bytes} (h : unambig dir base rng pad ext = true) :
    UnambigFacts dir base rng pad ext := by
  unfold unambig at h
  simp only [Bool.and_eq_true, Bool.or_eq_true, Bool.not_eq_true', List.isEmpty_iff,
    List.all_eq_true] at h
  -- the twelve clauses of `Spec.unambig` in the order it writes them; `hnl` … `hlt` are the six
  -- characters the name may not hold: newline, '#', '@', '%', '$', '<'
  obtain ⟨⟨⟨⟨⟨⟨⟨⟨⟨⟨⟨hdir, hbase⟩, hnl⟩, hh⟩, hat⟩, hpc⟩, hdl⟩, hlt⟩, htail⟩, hrng⟩, hpad⟩, hext⟩ := h
  have ne : ∀ {x : Char} {l : Bytes}, l.contains x = false → ∀ c ∈ l, c ≠ x :=
    fun h c hc e => contains_eq_false_iff.mp h (e ▸ hc)
  have hr : (∀ c ∈ rng, isRangeChar c = true) ∧ ∀ c ∈ rng.head?, isRangeStart c = true := by
    rcases hrng with rfl | ⟨hr, -⟩
    · constructor
      · intro c hc; cases hc
      · intro c hc; cases hc
    · exact plainRange_chars hr
  refine ⟨hdir, contains_eq_false_iff.mp hbase, ?_, htail, hr.1, hr.2, hrng.imp_right And.right,
    Option.isSome_iff_exists.mp hpad, ?_, ?_⟩
  · intro c hc
    exact ⟨ne hnl c hc, isPadStart_eq_false.mpr
      ⟨ne hh c hc, ne hat c hc, ne hpc c hc, ne hdl c hc, ne hlt c hc⟩⟩
  · intro c hc
    rcases hext with rfl | ⟨he, -⟩
    · cases hc
    · obtain ⟨r, rfl⟩ := isPrefixOf_iff.mp he
      cases hc
      rfl
  · rcases hext with rfl | ⟨-, he⟩
    · exact List.not_mem_nil
    · exact contains_eq_false_iff.mp he

theorem splitSeq_unambig (dir base rng pad ext : Bytes) (h : unambig dir base rng pad ext = true) :
    splitSeq (dir ++ base ++ rng ++ pad ++ ext) = some (dir ++ base, rng, pad, ext) := by
  have F := unambig_facts h
  obtain ⟨t, ht⟩ := F.hpad
  have hpre : ∀ c ∈ dir ++ base ++ rng, c ≠ '\n' ∧ isPadStart c = false := by
    intro c hc
    rcases List.mem_append.mp hc with hc | hc
    · exact F.hname c hc
    · exact rangeChar_not_padStart (F.hrng c hc)
  have hnl : (dir ++ base ++ rng ++ pad ++ ext).contains '\n' = false := by
    refine contains_eq_false_iff.mpr fun hm => ?_
    rcases List.mem_append.mp hm with hm | hm
    · rcases List.mem_append.mp hm with hm | hm
      · exact (hpre _ hm).1 rfl
      · exact classifyPad_no_nl pad t ht hm
    · exact F.hext hm
  have hfind : findPad [] (dir ++ base ++ rng ++ pad ++ ext) =
      some (dir ++ base ++ rng, pad, ext) := by
    rw [List.append_assoc (dir ++ base ++ rng), findPad_append _ _ (fun c hc => (hpre c hc).2),
      findPad_token _ (padTokenAt_token pad ext t ht F.hext0), List.append_nil, List.reverse_reverse]
  obtain ⟨h1, h2⟩ := range_split (dir ++ base) rng F.htail F.hrng F.hrng0
  unfold splitSeq
  rw [hnl, hfind]
  simp only [Bool.false_eq_true, if_false]
  rw [h1, h2]

end Gfs.Proofs

