/-
  GfsProofs.XorshiftLemmas — the id generator never yields 0 and never repeats before its
  state returns to the seed (C20).
-/
import GfsModel.Xorshift

namespace Gfs.Proofs
open Gfs.Xorshift

/-- A xor-shift step `x ↦ x ^^^ sh x k` is injective, for whatever shift `sh` (left or right) and
    amount `k > 0`. The step is `I + L` over GF(2) with `L` nilpotent; its square is
    `(I + L)² = I + L²`, the same step with amount `2k`, and from amount 64 on the step is the
    identity. -/
theorem xorshift_injective (sh : BitVec 64 → Nat → BitVec 64)
    (hxor : ∀ a b k, sh (a ^^^ b) k = sh a k ^^^ sh b k)
    (hadd : ∀ a j k, sh (sh a j) k = sh a (j + k))
    (hbig : ∀ a k, 64 ≤ k → sh a k = 0#64)
    (k : Nat) (hk : 0 < k) {x y : BitVec 64} (h : x ^^^ sh x k = y ^^^ sh y k) : x = y := by
  have sq : ∀ k z, (z ^^^ sh z k) ^^^ sh (z ^^^ sh z k) k = z ^^^ sh z (k + k) := fun k z => by
    rw [hxor, hadd, BitVec.xor_assoc, ← BitVec.xor_assoc (sh z k), BitVec.xor_self, BitVec.zero_xor]
  -- square `n` times; `n = 64` is enough
  suffices ∀ n k, 0 < k → 64 ≤ k + n → x ^^^ sh x k = y ^^^ sh y k → x = y from
    this 64 k hk (Nat.le_add_left ..) h
  intro n
  induction n with
  | zero =>
    intro k _ hb h
    rwa [hbig x k hb, hbig y k hb, BitVec.xor_zero, BitVec.xor_zero] at h
  | succ n ih =>
    intro k hk hb h
    exact ih (k + k) (Nat.add_pos_left hk k) (by omega) (by rw [← sq, ← sq, h])

theorem xor64_injective {x y : BitVec 64} (h : xor64 x = xor64 y) : x = y := by
  have shl := xorshift_injective (· <<< ·) (fun _ _ _ => BitVec.shiftLeft_xor_distrib ..)
    (fun _ _ _ => (BitVec.shiftLeft_add ..).symm) (fun _ _ => BitVec.shiftLeft_eq_zero)
  have shr := xorshift_injective (· >>> ·) (fun _ _ _ => BitVec.ushiftRight_xor_distrib ..)
    (fun _ _ _ => (BitVec.shiftRight_add ..).symm) (fun _ _ => BitVec.ushiftRight_eq_zero)
  exact shl 13 (by decide) (shr 7 (by decide) (shl 17 (by decide) h))

theorem xor64_zero : xor64 0#64 = 0#64 := by
  simp [xor64]

theorem xor64_zero_iff {x : BitVec 64} : xor64 x = 0#64 ↔ x = 0#64 :=
  ⟨fun h => xor64_injective (h.trans xor64_zero.symm), fun h => h ▸ xor64_zero⟩

theorem seed_ne_zero (s : BitVec 64) : seed s ≠ 0#64 := by
  unfold seed
  split
  · decide
  · assumption

/-- the ids are the orbit of the seed under an injective map: whether two of them agree depends on
    the distance of their positions only -/
theorem nth_add_cancel (s : BitVec 64) (i j k : Nat) :
    nth s (i + k) = nth s (j + k) ↔ nth s i = nth s j := by
  induction k with
  | zero => exact Iff.rfl
  | succ k ih => exact ⟨fun h => ih.mp (xor64_injective h), fun h => congrArg xor64 (ih.mpr h)⟩

end Gfs.Proofs
