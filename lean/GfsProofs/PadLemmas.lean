/-
  GfsProofs.PadLemmas — pad characters ↔ pad widths (C10), zero filling (C04); the model's
  `isPrefixOf` / `isSuffixOf` as core's prefix and suffix relations.
-/
import GfsSpec.SeqSpec
import GfsProofs.NumLemmas

namespace Gfs.Proofs
open Gfs Gfs.Spec

-- to kernel and unifier a literal is `String.ofList` of its characters: no evaluation of `toList`
theorem udimAngle_toList : "<UDIM>".toList = ['<','U','D','I','M','>'] := String.toList_ofList
theorem udimPrintf_toList : "%(UDIM)d".toList = ['%','(','U','D','I','M',')','d'] := String.toList_ofList

theorem isPrefixOf_iff {p s : Bytes} : isPrefixOf p s = true ↔ p <+: s := by
  induction p generalizing s with
  | nil => simp [isPrefixOf]
  | cons a p ih =>
    cases s with
    | nil => simp [isPrefixOf]
    | cons b s => simp [isPrefixOf, ih, List.cons_prefix_cons]

theorem isSuffixOf_iff {p s : Bytes} : isSuffixOf p s = true ↔ p <:+ s := by
  rw [isSuffixOf, isPrefixOf_iff, List.reverse_prefix]

/-- only a string with a 'U' passes the UDIM test -/
theorem udimMatch_false {s : Bytes} (h : 'U' ∉ s) : udimMatch s = false := by
  rw [udimMatch, udimAngle_toList, udimPrintf_toList, Bool.or_eq_false_iff, ← Bool.not_eq_true,
    ← Bool.not_eq_true, isPrefixOf_iff, isSuffixOf_iff]
  exact ⟨fun hp => h (hp.subset (by decide)), fun hs => h (hs.subset (by decide))⟩

/-- on a run of pad characters `PaddingCharsSize` is the sum of their sizes -/
theorem padSize_eq_sum (st : PadStyle) (s : Bytes) (hne : s ≠ [])
    (h : ∀ c ∈ s, c = '#' ∨ c = '@') :
    padSize st s = (s.map (charSize st)).sum := by
  cases s with
  | nil => exact absurd rfl hne
  | cons c s =>
    have hu : udimMatch (c :: s) = false :=
      udimMatch_false fun hm => by rcases h _ hm with e | e <;> cases e
    have hp : printfDigits (c :: s) = none ∧ houdiniDigits (c :: s) = none := by
      rcases h c List.mem_cons_self with e | e <;> subst e <;> exact ⟨rfl, rfl⟩
    rw [padSize, if_neg (by simp), hu, if_neg (by simp), hp.1, hp.2, List.sum_eq_foldl, List.foldl_map]

theorem sum_charSize_chars (st : PadStyle) (s : Bytes) (h : ∀ c ∈ s, c = '#' ∨ c = '@') :
    (s.map (charSize st)).sum =
      (if st = .hash4 then 4 else 1) * (countChar '#' s : Int) + countChar '@' s := by
  induction s with
  | nil => simp [countChar]
  | cons c s ih =>
    rw [List.map_cons, List.sum_cons, ih (fun c hc => h c (List.mem_cons_of_mem _ hc))]
    rcases h c List.mem_cons_self with hc | hc <;> subst hc <;> cases st <;>
      simp [countChar, charSize] <;> omega

theorem digitsWidth_digits (ds : Bytes) (hd : ∀ c ∈ ds, isDigit c = true)
    (hf : fitsWidth ds = true) :
    digitsWidth ds = (match digitsOpt ds with | some k => if k = 0 then 1 else (k : Int) | none => 1) := by
  by_cases hne : ds = []
  · subst hne; simp [digitsWidth, atoi_nil, digitsOpt]
  · have hf' : (digitsToNat ds : Int) ≤ maxInt64 := by simpa [fitsWidth] using hf
    have hemp : ds.isEmpty = false := List.isEmpty_eq_false_iff.2 hne
    simp only [digitsWidth, atoi_digits ds hne hd, hf', if_true, digitsOpt, hemp]
    by_cases hz : digitsToNat ds = 0
    · simp [hz]
    · have : ¬ ((digitsToNat ds : Int) < 1) := by omega
      simp [hz, this]

/-- `PaddingChars` writes one of the two pad characters, at least once; for a width `n ≥ 1` the
    characters written count `n` -/
theorem padChars_replicate (st : PadStyle) (n : Int) :
    ∃ (k : Nat) (c : Char), 0 < k ∧ (c = '#' ∨ c = '@') ∧ padChars st n = List.replicate k c ∧
      (1 ≤ n → k * charSize st c = n) := by
  cases st with
  | hash4 =>
    rw [padChars]
    by_cases h0 : n ≤ 0
    · rw [if_pos h0]; exact ⟨1, '@', Nat.one_pos, .inr rfl, rfl, fun h => by omega⟩
    · rw [if_neg h0]
      by_cases h4 : n % 4 = 0
      · rw [if_pos h4]
        exact ⟨_, '#', by omega, .inl rfl, rfl, fun _ => show _ * (4 : Int) = n by omega⟩
      · rw [if_neg h4]
        exact ⟨_, '@', by omega, .inr rfl, rfl, fun _ => show _ * (1 : Int) = n by omega⟩
  | hash1 =>
    rw [padChars]
    by_cases h0 : n ≤ 0
    · rw [if_pos h0]; exact ⟨1, '#', Nat.one_pos, .inl rfl, rfl, fun h => by omega⟩
    · rw [if_neg h0]
      exact ⟨_, '#', by omega, .inl rfl, rfl, fun _ => show _ * (1 : Int) = n by omega⟩

theorem padChars_ne_nil (st : PadStyle) (n : Int) : padChars st n ≠ [] := by
  obtain ⟨k, c, hk, -, e, -⟩ := padChars_replicate st n
  rw [e]
  exact fun h => Nat.ne_of_gt hk ((List.replicate_eq_nil_iff c).1 h)

theorem padChars_chars (st : PadStyle) (n : Int) : ∀ c ∈ padChars st n, c = '#' ∨ c = '@' := by
  obtain ⟨k, c, -, hc, e, -⟩ := padChars_replicate st n
  rw [e]
  exact fun x hx => List.eq_of_mem_replicate hx ▸ hc

theorem isEmpty_padChars (st : PadStyle) (n : Int) : (padChars st n).isEmpty = false :=
  List.isEmpty_eq_false_iff.2 (padChars_ne_nil st n)

theorem padSize_padChars (st : PadStyle) (n : Int) (h : 1 ≤ n) : padSize st (padChars st n) = n := by
  rw [padSize_eq_sum st _ (padChars_ne_nil st n) (padChars_chars st n)]
  obtain ⟨k, c, -, -, e, hw⟩ := padChars_replicate st n
  rw [e, List.map_replicate, List.sum_replicate_int]
  exact hw h

theorem padSize_chars (st : PadStyle) (s : Bytes) (hne : s ≠ [])
    (h : ∀ c ∈ s, c = '#' ∨ c = '@') :
    padSize st s = (if st = .hash4 then 4 else 1) * (countChar '#' s : Int) + countChar '@' s := by
  rw [padSize_eq_sum st s hne h]
  exact sum_charSize_chars st s h

theorem classifyPad_inv {s : Bytes} {t : PadTok} (h : classifyPad s = some t) :
    (t = .udimAngle ∧ s = ['<','U','D','I','M','>']) ∨
    (t = .udimPrintf ∧ s = ['%','(','U','D','I','M',')','d']) ∨
    (∃ ds, (∀ c ∈ ds, isDigit c = true) ∧ fitsWidth ds = true ∧
      t = .printf (digitsOpt ds) ds ∧ s = '%' :: ds ++ ['d']) ∨
    (∃ ds, (∀ c ∈ ds, isDigit c = true) ∧ fitsWidth ds = true ∧
      t = .houdini (digitsOpt ds) ds ∧ s = '$' :: 'F' :: ds) ∨
    (s ≠ [] ∧ (∀ c ∈ s, c = '#' ∨ c = '@') ∧ t = .chars s) := by
  unfold classifyPad at h
  by_cases h1 : s = "<UDIM>".toList
  · rw [if_pos h1] at h
    exact Or.inl ⟨(Option.some.inj h).symm, h1.trans udimAngle_toList⟩
  rw [if_neg h1] at h
  by_cases h2 : s = "%(UDIM)d".toList
  · rw [if_pos h2] at h
    exact Or.inr (Or.inl ⟨(Option.some.inj h).symm, h2.trans udimPrintf_toList⟩)
  rw [if_neg h2] at h
  refine Or.inr (Or.inr ?_)
  split at h
  · cases h  -- the empty string
  · rename_i r  -- '%' :: r: printf
    dsimp only at h
    split at h
    · rename_i hc
      refine Or.inl ⟨r.takeWhile isDigit, mem_takeWhile_pred _ _, hc.2, (Option.some.inj h).symm, ?_⟩
      rw [List.cons_append, ← hc.1, List.takeWhile_append_dropWhile]
    · cases h
  · rename_i r  -- '$' :: 'F' :: r: houdini
    split at h
    · rename_i hc
      exact Or.inr (Or.inl ⟨r, List.all_eq_true.mp hc.1, hc.2, (Option.some.inj h).symm, rfl⟩)
    · cases h
  · rename_i hnil _ _  -- anything else: a run of pad characters
    split at h
    · rename_i hall
      refine Or.inr (Or.inr ⟨fun e => hnil e, fun c hc => ?_, (Option.some.inj h).symm⟩)
      simpa using List.all_eq_true.mp hall c hc
    · cases h

theorem classifyPad_no_nl (pad : Bytes) (t : PadTok) (h : classifyPad pad = some t) :
    '\n' ∉ pad := by
  rcases classifyPad_inv h with ⟨-, rfl⟩ | ⟨-, rfl⟩ | ⟨ds, hd, -, -, rfl⟩ | ⟨ds, hd, -, -, rfl⟩ | ⟨-, hc, -⟩
  · decide
  · decide
  · simp [not_mem_digits (x := '\n') hd (by decide)]
  · simp [not_mem_digits (x := '\n') hd (by decide)]
  · intro hm
    rcases hc _ hm with h' | h' <;> exact absurd h' (by decide)

theorem padSize_udimAngle (st : PadStyle) : padSize st ['<','U','D','I','M','>'] = 4 := by
  rw [padSize, if_neg (by simp), udimMatch, udimAngle_toList]
  rfl

theorem padSize_udimPrintf (st : PadStyle) : padSize st ['%','(','U','D','I','M',')','d'] = 4 := by
  rw [padSize, if_neg (by simp), udimMatch, udimAngle_toList, udimPrintf_toList]
  rfl

theorem padSize_printf (st : PadStyle) (ds : Bytes) (hd : ∀ c ∈ ds, isDigit c = true) :
    padSize st ('%' :: ds ++ ['d']) = digitsWidth ds := by
  obtain ⟨h1, h2⟩ := takeWhile_dropWhile_stop isDigit ds ['d'] hd (fun c hc => by cases hc; rfl)
  rw [List.cons_append]
  have hp : printfDigits ('%' :: (ds ++ ['d'])) = some ds := by
    rw [printfDigits, h1, h2, if_pos rfl]
  have hu : 'U' ∉ '%' :: (ds ++ ['d']) := by simp [not_mem_digits (x := 'U') hd (by decide)]
  rw [padSize, if_neg (by simp), udimMatch_false hu, if_neg (by simp), hp]

theorem padSize_houdini (st : PadStyle) (ds : Bytes) (hd : ∀ c ∈ ds, isDigit c = true) :
    padSize st ('$' :: 'F' :: ds) = digitsWidth ds := by
  have hh : houdiniDigits ('$' :: 'F' :: ds) = some ds := by
    rw [houdiniDigits, if_pos (List.all_eq_true.mpr hd)]
  have hu : 'U' ∉ '$' :: 'F' :: ds := by simp [not_mem_digits (x := 'U') hd (by decide)]
  rw [padSize, if_neg (by simp), udimMatch_false hu, if_neg (by simp),
    show printfDigits ('$' :: 'F' :: ds) = none from rfl, hh]

theorem padSize_classify (st : PadStyle) (s : Bytes) (t : PadTok) (h : classifyPad s = some t) :
    padSize st s = t.width st ∧ t.render = s := by
  rcases classifyPad_inv h with ⟨rfl, rfl⟩ | ⟨rfl, rfl⟩ | ⟨ds, hd, hf, rfl, rfl⟩ |
    ⟨ds, hd, hf, rfl, rfl⟩ | ⟨hne, hc, rfl⟩
  · exact ⟨padSize_udimAngle st, udimAngle_toList⟩
  · exact ⟨padSize_udimPrintf st, udimPrintf_toList⟩
  · refine ⟨?_, rfl⟩
    rw [padSize_printf st ds hd, digitsWidth_digits ds hd hf]
    rfl
  · refine ⟨?_, rfl⟩
    rw [padSize_houdini st ds hd, digitsWidth_digits ds hd hf]
    rfl
  · exact ⟨padSize_chars st s hne hc, rfl⟩

theorem zfillSpec_eq_renderNum (f w : Int) :
    zfillSpec f w = renderNum f (w.toNat - (itoa f).length) := by
  unfold zfillSpec itoa renderNum
  split <;> simp only [List.length_cons, List.length_nil, Nat.sub_sub, Nat.add_comm, Nat.zero_add,
    Nat.sub_zero]

theorem zfillInt_eq_spec (f w : Int) : zfillInt f w = zfillSpec f w := by
  rw [zfillInt_eq_renderNum, zfillSpec_eq_renderNum]

theorem zfillSpec_injective (w a b : Int) (h : zfillSpec a w = zfillSpec b w) : a = b := by
  have ha := renderNum_numText a (w.toNat - (itoa a).length)
  rw [← zfillSpec_eq_renderNum, h, zfillSpec_eq_renderNum] at ha
  exact numText_unique ha (renderNum_numText b _)

end Gfs.Proofs
