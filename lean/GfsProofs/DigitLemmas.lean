/-
  GfsProofs.DigitLemmas — decimal digits: `digitsToNat` undoes `natDigits`, and a digit string is
  the `natDigits` of its value behind its leading zeros.
-/
import GfsModel.Basic
import GfsProofs.ListBasics

namespace Gfs.Proofs
open Gfs

theorem digitChar_lt_facts : ∀ k, k < 10 →
    isDigit (digitChar k) = true ∧ digitVal (digitChar k) = k ∧
    (digitChar k = '0' ↔ k = 0) ∧ digitChar k ≠ '-' := by
  decide

theorem digitChar_mod (n : Nat) : digitChar (n % 10) = digitChar n := by
  simp [digitChar]

theorem isDigit_digitChar (n : Nat) : isDigit (digitChar n) = true := by
  rw [← digitChar_mod]
  exact (digitChar_lt_facts (n % 10) (Nat.mod_lt _ (by decide))).1

theorem digitVal_digitChar (n : Nat) (h : n < 10) : digitVal (digitChar n) = n :=
  (digitChar_lt_facts n h).2.1

theorem digitChar_eq_zero_iff (n : Nat) (h : n < 10) : digitChar n = '0' ↔ n = 0 :=
  (digitChar_lt_facts n h).2.2.1

theorem digitChar_ne_minus (n : Nat) : digitChar n ≠ '-' := by
  rw [← digitChar_mod]
  exact (digitChar_lt_facts (n % 10) (Nat.mod_lt _ (by decide))).2.2.2

theorem isDigit_iff (c : Char) : isDigit c = true ↔ 48 ≤ c.toNat ∧ c.toNat ≤ 57 := by
  simp [isDigit]

theorem digitVal_lt (c : Char) (h : isDigit c = true) : digitVal c < 10 := by
  rw [isDigit_iff] at h
  simp only [digitVal, show '0'.toNat = 48 from rfl]
  omega

theorem digitChar_digitVal (c : Char) (h : isDigit c = true) : digitChar (digitVal c) = c := by
  rw [isDigit_iff] at h
  simp only [digitChar, digitVal, show '0'.toNat = 48 from rfl]
  rw [Nat.mod_eq_of_lt (by omega), Nat.sub_add_cancel h.1]
  exact Char.ofNat_toNat c

theorem ne_of_isDigit {c x : Char} (h : isDigit c = true) (hx : isDigit x = false) : c ≠ x :=
  fun e => by rw [e, hx] at h; cases h

theorem not_mem_digits {ds : List Char} (hd : ∀ c ∈ ds, isDigit c = true) {x : Char}
    (hx : isDigit x = false) : x ∉ ds :=
  fun hm => ne_of_isDigit (hd x hm) hx rfl

theorem digitVal_zero : digitVal '0' = 0 := rfl

theorem digitVal_eq_zero (c : Char) (h : isDigit c = true) (hv : digitVal c = 0) : c = '0' := by
  have := digitChar_digitVal c h
  rw [hv] at this
  exact this.symm

theorem digitsToNat_nil : digitsToNat [] = 0 := rfl

theorem digitsToNat_append_singleton (ds : List Char) (c : Char) :
    digitsToNat (ds ++ [c]) = digitsToNat ds * 10 + digitVal c := by
  simp [digitsToNat, List.foldl_append]

theorem digitsToNat_singleton (c : Char) : digitsToNat [c] = digitVal c := by
  simp [digitsToNat]

theorem digitsToNat_replicate_zero_append (k : Nat) (ds : List Char) :
    digitsToNat (List.replicate k '0' ++ ds) = digitsToNat ds := by
  induction k with
  | zero => rfl
  | succ k ih => exact ih

theorem digitsToNat_replicate_zero (k : Nat) : digitsToNat (List.replicate k '0') = 0 := by
  have := digitsToNat_replicate_zero_append k []
  simpa [digitsToNat_nil] using this

theorem natDigits_lt (n : Nat) (h : n < 10) : natDigits n = [digitChar n] := by
  rw [natDigits]; simp [h]

theorem natDigits_ge (n : Nat) (h : 10 ≤ n) :
    natDigits n = natDigits (n / 10) ++ [digitChar (n % 10)] := by
  rw [natDigits]; simp [Nat.not_lt.mpr h]

theorem natDigits_zero : natDigits 0 = ['0'] := by
  rw [natDigits_lt 0 (by decide)]; rfl

theorem natDigits_mul_add (m d : Nat) (hd : d < 10) :
    natDigits (m * 10 + d) =
      if m = 0 then [digitChar d] else natDigits m ++ [digitChar d] := by
  by_cases hm : m = 0
  · subst hm; rw [Nat.zero_mul, Nat.zero_add, if_pos rfl, natDigits_lt d hd]
  · rw [natDigits_ge _ (by omega), if_neg hm, Nat.mul_comm, Nat.mul_add_div (by decide),
      Nat.mul_add_mod, Nat.div_eq_of_lt hd, Nat.add_zero, Nat.mod_eq_of_lt hd]

theorem natDigits_ne_nil (n : Nat) : natDigits n ≠ [] := by
  by_cases h : n < 10
  · rw [natDigits_lt n h]; simp
  · rw [natDigits_ge n (by omega)]; simp

theorem natDigits_length_pos (n : Nat) : 0 < (natDigits n).length :=
  List.length_pos_iff.mpr (natDigits_ne_nil n)

theorem natDigits_all_digit (n : Nat) : ∀ c ∈ natDigits n, isDigit c = true := by
  induction n using natDigits.induct with
  | case1 n h =>
    rw [natDigits_lt n h]; intro c hc
    simp at hc; subst hc; exact isDigit_digitChar n
  | case2 n h ih =>
    rw [natDigits_ge n (by omega)]; intro c hc
    rw [List.mem_append] at hc
    rcases hc with hc | hc
    · exact ih c hc
    · simp at hc; subst hc; exact isDigit_digitChar _

theorem natDigits_all (n : Nat) : (natDigits n).all isDigit = true := by
  rw [List.all_eq_true]; exact natDigits_all_digit n

theorem digitsToNat_natDigits (n : Nat) : digitsToNat (natDigits n) = n := by
  induction n using natDigits.induct with
  | case1 n h =>
    rw [natDigits_lt n h, digitsToNat_singleton, digitVal_digitChar n h]
  | case2 n h ih =>
    rw [natDigits_ge n (by omega), digitsToNat_append_singleton, ih,
      digitVal_digitChar _ (Nat.mod_lt _ (by decide))]
    omega

theorem natDigits_injective (a b : Nat) (h : natDigits a = natDigits b) : a = b := by
  have := congrArg digitsToNat h
  simpa [digitsToNat_natDigits] using this

theorem minus_not_mem_natDigits (n : Nat) : '-' ∉ natDigits n :=
  not_mem_digits (natDigits_all_digit n) (by decide)

theorem natDigits_head_ne_zero (n : Nat) (hn : n ≠ 0) : (natDigits n).head? ≠ some '0' := by
  induction n using natDigits.induct with
  | case1 n h =>
    rw [natDigits_lt n h]
    simp only [List.head?_cons, ne_eq, Option.some.injEq]
    rw [digitChar_eq_zero_iff n h]; exact hn
  | case2 n h ih =>
    rw [natDigits_ge n (by omega)]
    have hne := natDigits_ne_nil (n / 10)
    rw [head?_append_ne_nil _ _ hne]
    exact ih (by omega)

/-- a digit string is the `natDigits` of its value behind leading zeros -/
theorem zeros_natDigits_digitsToNat (ds : List Char) (hne : ds ≠ [])
    (hd : ∀ c ∈ ds, isDigit c = true) :
    ∃ k, List.replicate k '0' ++ natDigits (digitsToNat ds) = ds := by
  induction ds using list_snoc_induction with
  | nil => exact absurd rfl hne
  | snoc ds' c ih =>
    have hc : isDigit c = true := hd c (List.mem_append_right _ List.mem_cons_self)
    rw [digitsToNat_append_singleton, natDigits_mul_add _ _ (digitVal_lt c hc), digitChar_digitVal c hc]
    by_cases hds' : ds' = []
    · subst hds'; exact ⟨0, rfl⟩
    · obtain ⟨k, ih'⟩ := ih hds' (fun c hc => hd c (List.mem_append_left _ hc))
      by_cases hm : digitsToNat ds' = 0
      · rw [hm, natDigits_zero, ← List.replicate_succ'] at ih'
        exact ⟨k + 1, by rw [if_pos hm, ih']⟩
      · exact ⟨k, by rw [if_neg hm, ← List.append_assoc, ih']⟩

theorem natDigits_digitsToNat (ds : List Char) (hne : ds ≠ [])
    (hd : ∀ c ∈ ds, isDigit c = true) (h0 : ds.head? ≠ some '0' ∨ ds = ['0']) :
    natDigits (digitsToNat ds) = ds := by
  rcases h0 with h0 | h0
  · obtain ⟨k, h⟩ := zeros_natDigits_digitsToNat ds hne hd
    cases k with
    | zero => simpa using h
    | succ k =>
      rw [← h] at h0
      simp [List.replicate_succ] at h0
  · subst h0; rw [digitsToNat_singleton, digitVal_zero, natDigits_zero]

theorem natDigits_length_le (ds : List Char) (hne : ds ≠ [])
    (hd : ∀ c ∈ ds, isDigit c = true) :
    (natDigits (digitsToNat ds)).length ≤ ds.length := by
  obtain ⟨k, h⟩ := zeros_natDigits_digitsToNat ds hne hd
  have := congrArg List.length h
  simp at this
  omega

theorem digitsToNat_lt (ds : Bytes) (hd : ∀ c ∈ ds, isDigit c = true) :
    digitsToNat ds < 10 ^ ds.length := by
  induction ds using list_snoc_induction with
  | nil => simp [digitsToNat_nil]
  | snoc ds c ih =>
    rw [digitsToNat_append_singleton]
    have h1 := digitVal_lt c (hd c (by simp))
    have h2 := ih (fun c hc => hd c (by simp [hc]))
    simp only [List.length_append, List.length_singleton, Nat.pow_succ]
    omega

end Gfs.Proofs
