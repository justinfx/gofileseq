/-
  GfsProofs.SortLemmas — the two insertion sorts: `sortedSet` of the specification (strictly
  ascending, duplicates dropped) and `sortInts` of the model (`sort.Ints`).  Each is characterised
  by its members and its order, so that equal members give equal results; on a duplicate-free list
  the two agree.
-/
import GfsSpec.Enum
import GfsModel.Compress

namespace Gfs.Proofs
open Gfs Gfs.Spec

theorem asc_nodup (l : List Int) (h : l.Pairwise (· < ·)) : l.Nodup := by
  unfold List.Nodup
  exact h.imp (fun hab => by omega)

theorem asc_ext (l1 l2 : List Int) (h1 : l1.Pairwise (· < ·)) (h2 : l2.Pairwise (· < ·))
    (h : ∀ v, v ∈ l1 ↔ v ∈ l2) : l1 = l2 :=
  ((List.perm_ext_iff_of_nodup (asc_nodup _ h1) (asc_nodup _ h2)).2 h).eq_of_pairwise
    (fun _ _ _ _ hab hba => by omega) h1 h2

theorem mem_insertSorted (x v : Int) (l : List Int) :
    v ∈ insertSorted x l ↔ v = x ∨ v ∈ l := by
  induction l with
  | nil => rw [insertSorted, List.mem_singleton, List.mem_nil_iff, or_false]
  | cons y ys ih =>
    rw [insertSorted]
    by_cases h1 : x < y
    · rw [if_pos h1, List.mem_cons]
    · by_cases h2 : x = y
      · rw [if_neg h1, if_pos h2, h2, List.mem_cons]
        exact ⟨Or.inr, fun h => h.elim Or.inl id⟩
      · rw [if_neg h1, if_neg h2, List.mem_cons, ih, List.mem_cons, or_left_comm]

theorem insertSorted_asc (x : Int) (l : List Int) (h : l.Pairwise (· < ·)) :
    (insertSorted x l).Pairwise (· < ·) := by
  induction l with
  | nil => exact List.pairwise_singleton _ _
  | cons y ys ih =>
    rw [List.pairwise_cons] at h
    rw [insertSorted]
    by_cases h1 : x < y
    · rw [if_pos h1, List.pairwise_cons, List.pairwise_cons]
      refine ⟨fun v hv => ?_, h⟩
      rcases List.mem_cons.mp hv with rfl | hv
      · exact h1
      · exact Int.lt_trans h1 (h.1 v hv)
    · by_cases h2 : x = y
      · rw [if_neg h1, if_pos h2]; exact List.pairwise_cons.mpr h
      · rw [if_neg h1, if_neg h2, List.pairwise_cons]
        refine ⟨fun v hv => ?_, ih h.2⟩
        rcases (mem_insertSorted x v ys).mp hv with rfl | hv
        · omega
        · exact h.1 v hv

theorem mem_sortedSet (L : List Int) (v : Int) : v ∈ sortedSet L ↔ v ∈ L := by
  induction L with
  | nil => simp [sortedSet]
  | cons x xs ih =>
    have : sortedSet (x :: xs) = insertSorted x (sortedSet xs) := rfl
    rw [this, mem_insertSorted, ih]; simp

theorem sortedSet_sorted (L : List Int) : (sortedSet L).Pairwise (· < ·) := by
  induction L with
  | nil => simp [sortedSet]
  | cons x xs ih =>
    have : sortedSet (x :: xs) = insertSorted x (sortedSet xs) := rfl
    rw [this]; exact insertSorted_asc x _ ih

theorem sortedSet_idem (L : List Int) : sortedSet (sortedSet L) = sortedSet L := by
  apply asc_ext _ _ (sortedSet_sorted _) (sortedSet_sorted _)
  intro v
  rw [mem_sortedSet]

theorem sortedSet_perm (L L' : List Int) (h : ∀ v, v ∈ L ↔ v ∈ L') : sortedSet L = sortedSet L' := by
  apply asc_ext _ _ (sortedSet_sorted _) (sortedSet_sorted _)
  intro v
  rw [mem_sortedSet, mem_sortedSet, h]

/-! `Order` collects what `C05_order` rests on (continued in ListGroup, ListScan, ListOrder); C07 and
    C19 use its `bkey`, `mkFI` and `bucketSeqs_uniform` too. Here: `sort.Ints` depends only on the
    multiset of its input. -/
namespace Order

theorem insertInt_perm (x : Int) (l : List Int) : (insertInt x l).Perm (x :: l) := by
  induction l with
  | nil => exact List.Perm.refl _
  | cons y ys ih =>
    unfold insertInt
    split
    · exact List.Perm.refl _
    · exact (List.Perm.cons y ih).trans (List.Perm.swap x y ys)

theorem sortInts_perm_self (l : List Int) : (sortInts l).Perm l := by
  induction l with
  | nil => exact List.Perm.refl _
  | cons x xs ih =>
    show (insertInt x (sortInts xs)).Perm (x :: xs)
    exact (insertInt_perm x _).trans (List.Perm.cons x ih)

theorem insertInt_sorted (x : Int) (l : List Int) (h : l.Pairwise (· ≤ ·)) :
    (insertInt x l).Pairwise (· ≤ ·) := by
  induction l with
  | nil => simp [insertInt]
  | cons y ys ih =>
    unfold insertInt
    have hy := List.pairwise_cons.1 h
    split
    · rename_i hxy
      refine List.pairwise_cons.2 ⟨?_, h⟩
      intro a ha
      rcases List.mem_cons.1 ha with rfl | ha
      · exact hxy
      · exact Int.le_trans hxy (hy.1 a ha)
    · rename_i hxy
      refine List.pairwise_cons.2 ⟨?_, ih hy.2⟩
      intro a ha
      have := (insertInt_perm x ys).mem_iff.1 ha
      rcases List.mem_cons.1 this with rfl | ha'
      · exact Int.le_of_lt (Int.not_le.1 hxy)
      · exact hy.1 a ha'

theorem sortInts_sorted (l : List Int) : (sortInts l).Pairwise (· ≤ ·) := by
  induction l with
  | nil => simp [sortInts]
  | cons x xs ih => exact insertInt_sorted x _ ih

theorem sortInts_congr {l l' : List Int} (h : l.Perm l') : sortInts l = sortInts l' := by
  have hp : (sortInts l).Perm (sortInts l') :=
    (sortInts_perm_self l).trans (h.trans (sortInts_perm_self l').symm)
  exact List.Perm.eq_of_pairwise (fun a b _ _ hab hba => Int.le_antisymm hab hba)
    (sortInts_sorted l) (sortInts_sorted l') hp

end Order

theorem mem_sortInts (v : Int) (l : List Int) : v ∈ sortInts l ↔ v ∈ l :=
  (Order.sortInts_perm_self l).mem_iff

theorem sortInts_ne_nil (l : List Int) (h : l ≠ []) : sortInts l ≠ [] :=
  fun e => h (e ▸ Order.sortInts_perm_self l).symm.eq_nil

theorem sortInts_eq_sortedSet (l : List Int) (h : l.Nodup) : sortInts l = sortedSet l := by
  have hn : (sortInts l).Nodup := (Order.sortInts_perm_self l).nodup_iff.mpr h
  refine asc_ext _ _ (((Order.sortInts_sorted l).and hn).imp Int.lt_iff_le_and_ne.mpr)
    (sortedSet_sorted l) fun v => ?_
  rw [mem_sortInts, mem_sortedSet]

theorem sortedSet_nodup (l : List Int) : (sortedSet l).Nodup :=
  asc_nodup _ (sortedSet_sorted l)

theorem sortedSet_perm_self (l : List Int) (h : l.Nodup) : (sortedSet l).Perm l :=
  sortInts_eq_sortedSet l h ▸ Order.sortInts_perm_self l

end Gfs.Proofs
