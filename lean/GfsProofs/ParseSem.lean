/-
  GfsProofs.ParseSem — the semantic half of C01: handleMatch / handleMatches append exactly
  the expansion of each component, keeping a frame at its first occurrence only; hence what
  NewFrameSet accepts and returns, and that IsFrameRange agrees with it (C15).
-/
import GfsProofs.BlocksLemmas
import GfsProofs.ParseSyn

namespace Gfs.Proofs
open Gfs Gfs.Spec

theorem mem_dedupFirst (X : List Int) (v : Int) : v ∈ dedupFirst X ↔ v ∈ X := by
  induction X with
  | nil => simp [dedupFirst]
  | cons x xs ih =>
    simp only [dedupFirst, List.mem_cons, List.mem_filter, ih]
    by_cases h : v = x <;> simp [h]

theorem dedupFirst_append (A B : List Int) :
    dedupFirst (A ++ B) = dedupFirst A ++ (dedupFirst B).filter (fun v => !A.contains v) := by
  induction A with
  | nil => exact (List.filter_eq_self.mpr fun _ _ => rfl).symm
  | cons a A ih =>
    simp only [List.cons_append, dedupFirst, ih, List.filter_append, List.filter_filter]
    congr 2
    apply List.filter_congr
    intro v _
    by_cases h : v = a <;> simp [h]

theorem dedupFirst_of_nodup (X : List Int) (h : X.Nodup) : dedupFirst X = X := by
  induction X with
  | nil => rfl
  | cons x xs ih =>
    rw [List.nodup_cons] at h
    rw [dedupFirst, ih h.2]
    congr 1
    rw [List.filter_eq_self]
    intro a ha
    have : a ≠ x := fun hh => h.1 (hh ▸ ha)
    simp [this]

theorem dedupFirst_nodup (X : List Int) : (dedupFirst X).Nodup := by
  induction X with
  | nil => simp [dedupFirst]
  | cons x xs ih =>
    rw [dedupFirst, List.nodup_cons]
    refine ⟨?_, ih.sublist List.filter_sublist⟩
    simp [List.mem_filter]

theorem dedupFirst_idem (X : List Int) : dedupFirst (dedupFirst X) = dedupFirst X :=
  dedupFirst_of_nodup _ (dedupFirst_nodup X)

theorem dedupFirst_dedup_append (A B : List Int) :
    dedupFirst (dedupFirst A ++ B) = dedupFirst (A ++ B) := by
  rw [dedupFirst_append, dedupFirst_append, dedupFirst_idem]
  congr 1
  apply List.filter_congr
  intro v _
  by_cases h : v ∈ A <;> simp [h, mem_dedupFirst]

theorem dedupFirst_append_congr (A : List Int) {B B' : List Int} (h : dedupFirst B = dedupFirst B') :
    dedupFirst (A ++ B) = dedupFirst (A ++ B') := by
  rw [dedupFirst_append, dedupFirst_append, h]

theorem dedupFirst_flatMap_dedup (cs : List Comp) :
    dedupFirst (cs.flatMap (fun c => dedupFirst (expand c))) = dedupFirst (cs.flatMap expand) := by
  induction cs with
  | nil => rfl
  | cons c cs ih =>
    simp only [List.flatMap_cons]
    rw [dedupFirst_dedup_append]
    exact dedupFirst_append_congr _ ih

/-- the block list denotes `X`, every value kept at its first occurrence only: what `Spec.denote`
    is for a list of components, said of the blocks -/
def Denotes (bl : Blocks) (X : List Int) : Prop := WF bl ∧ blocksEnum bl = dedupFirst X

theorem denotes_nil : Denotes [] [] := ⟨wf_nil, rfl⟩

theorem Denotes.appendUnique {bl : Blocks} {X : List Int} (h : Denotes bl X) (s e : Int) {st : Int}
    (hst : st ≠ 0) : Denotes (Blocks.appendUnique bl s e st) (X ++ enum s e st.natAbs) := by
  obtain ⟨hw, he⟩ := appendUnique_spec bl h.1 s e st
  refine ⟨hw, ?_⟩
  rw [he, appendU, if_neg hst, h.2, dedupFirst_append, dedupFirst_of_nodup _ (enum_nodup _ _ _)]
  congr 1
  apply List.filter_congr
  intro v _
  rw [Bool.eq_iff_iff]
  simp only [Bool.not_eq_true', List.contains_eq_mem, decide_eq_false_iff_not, mem_dedupFirst]

theorem Denotes.single {bl : Blocks} {X : List Int} (h : Denotes bl X) (v : Int) :
    Denotes (Blocks.appendUnique bl v v 1) (X ++ [v]) := by
  have := h.appendUnique v v (st := 1) (by omega)
  rwa [show ((1 : Int).natAbs : Int) = 1 from rfl, enum_self v 1 (by omega)] at this

/-- the values the `y` loop of `handleMatch` keeps: `fillLoop` without the blocks -/
def fillKeep (inc : Int) : Int → List Int → List Int
  | _, [] => []
  | skip, v :: vs => if v = skip then fillKeep inc (skip + inc) vs else v :: fillKeep inc skip vs

theorem fillLoop_keep {inc : Int} {vals : List Int} : ∀ {bl : Blocks} {X : List Int} (skip : Int),
    Denotes bl X → Denotes (fillLoop inc bl skip vals) (X ++ fillKeep inc skip vals) := by
  induction vals with
  | nil => exact fun skip h => (List.append_nil _).symm ▸ h
  | cons v vs ih =>
    intro bl X skip h
    rw [fillLoop, fillKeep]
    by_cases hv : v = skip
    · rw [if_pos hv, if_pos hv]; exact ih _ h
    · rw [if_neg hv, if_neg hv, List.append_cons]; exact ih skip (h.single v)

theorem filter_not_contains_cons (x : Int) (S l : List Int) (h : ∀ w ∈ l, w ≠ x) :
    l.filter (fun w => !(x :: S).contains w) = l.filter (fun w => !S.contains w) := by
  apply List.filter_congr
  intro w hw
  rw [List.contains_cons, beq_false_of_ne (h w hw), Bool.false_or]

/-- The `y` loop in either direction: the walk `v, v + d, …` (`n` values) meets the values to
    skip, `v + d * j, v + d * (j + m), …`, in their order, so it drops exactly those of its values
    that are among the first `c` of them, `c` large enough for the rest to lie past its end. -/
theorem fillKeep_prog {d : Int} (hd : d ≠ 0) {m : Nat} (hm : 0 < m) :
    ∀ (n : Nat) (v : Int) (j c : Nat), n ≤ j + m * c →
      fillKeep (d * (m : Int)) (v + d * (j : Int)) (prog v d n) =
        (prog v d n).filter (fun w => !(prog (v + d * (j : Int)) (d * (m : Int)) c).contains w) := by
  intro n
  induction n with
  | zero => intro v j c _; rfl
  | succ n ih =>
    intro v j c h
    have hv : v + d * ((0 : Nat) : Int) = v := by rw [Int.natCast_zero, Int.mul_zero, Int.add_zero]
    have hsucc : ∀ k : Nat, v + d * ((k + 1 : Nat) : Int) = v + d + d * (k : Int) := fun k => by
      rw [Int.natCast_add, Int.mul_add, Int.natCast_one, Int.mul_one, Int.add_comm (d * _) d, Int.add_assoc]
    -- the head differs from every value further on
    have hhead : ∀ k : Nat, 1 ≤ k → v ≠ v + d * (k : Int) := fun k hk e => by
      have := prog_inj hd (hv.trans e)
      omega
    rw [prog_cons, fillKeep]
    cases j with
    | zero =>
      -- the head is skipped; the next value to skip is `m` places on
      cases c with
      | zero => exact absurd h (by rw [Nat.mul_zero]; exact Nat.not_succ_le_zero n)
      | succ c' =>
        obtain ⟨m', rfl⟩ := Nat.exists_eq_add_one_of_ne_zero (Nat.ne_zero_of_lt hm)
        rw [hv, if_pos rfl, prog_cons, List.filter_cons_of_neg (by simp), hsucc,
          ih (v + d) m' c' (by rw [Nat.mul_succ] at h; omega), ← hsucc]
        refine (filter_not_contains_cons v _ _ fun w hw hwv => ?_).symm
        obtain ⟨k, _, rfl⟩ := mem_prog.mp hw
        exact hhead (k + 1) (Nat.le_add_left _ _) ((hsucc k).trans hwv).symm
    | succ j' =>
      -- the head is kept: the first value to skip lies ahead
      have hnm : v ∉ prog (v + d * ((j' + 1 : Nat) : Int)) (d * (m : Int)) c := fun hmem => by
        obtain ⟨i, _, e⟩ := mem_prog.mp hmem
        exact hhead (j' + 1 + m * i) (Nat.le_add_right_of_le (Nat.le_add_left _ _)) (e.trans (by
          rw [Int.natCast_add (j' + 1), Int.natCast_mul, Int.mul_add, Int.mul_assoc, Int.add_assoc]))
      rw [if_neg (hhead _ (Nat.le_add_left _ _)), List.filter_cons_of_pos (by simpa using hnm), hsucc,
        ih (v + d) j' c (by omega)]

theorem fill_spec {bl : Blocks} {X : List Int} (h : Denotes bl X) (s e : Int) (m : Nat) (hm : 0 < m) :
    let dir : Int := if s > e then -1 else 1
    Denotes (fillLoop ((m : Int) * dir) bl s (mkRng s e dir).iter)
      (X ++ (enum s e 1).filter (fun v => !(enum s e m).contains v)) := by
  intro dir
  have hdir : cDir s e = dir := (RngAux.ite_gt_eq_cDir s e).symm
  obtain ⟨h1, hw⟩ := RngAux.cDir_mul s e Int.one_pos
  rw [Int.mul_one, hdir] at h1 hw
  have hd : dir ≠ 0 := by omega
  have hit : (mkRng s e dir).iter = enum s e 1 := by
    rw [RngAux.mkRng_of_ne hd, rng_iter _ hw, rngEnum, h1]
  rw [hit, RngAux.enum_eq_prog_cDir s e Int.one_pos, RngAux.enum_eq_prog_cDir s e (m := m) (by omega),
    Int.mul_one, hdir, Int.mul_comm]
  generalize (e - s).natAbs = N
  have key := fillKeep_prog hd hm (N / 1 + 1) s 0 (N / m + 1) (by
    rw [Nat.div_one, Nat.zero_add]; exact Nat.lt_mul_div_succ N hm)
  rw [Int.natCast_zero, Int.mul_zero, Int.add_zero] at key
  rw [show ((1 : Int).natAbs) = 1 from rfl, Int.natAbs_natCast, ← key]
  exact fillLoop_keep s h

theorem staggerLoop_spec (s e : Int) (k : Nat) : ∀ {bl : Blocks} {X : List Int}, Denotes bl X →
    Denotes (staggerLoop s e k bl) (X ++ stagger s e k) := by
  induction k with
  | zero => exact fun h => (List.append_nil _).symm ▸ h
  | succ k ih =>
    intro bl X h
    have h1 := ih (h.appendUnique s e (st := (k : Int) + 1) (by omega))
    rwa [Int.natAbs_of_nonneg (Int.le_add_one (Int.natCast_nonneg k)), List.append_assoc] at h1

/-! ### handleMatch

  The handler first reads the numbers of a capture, which can fail, and then appends to the
  blocks, which cannot: `handleMatch bl m = (readMatch m).map (applyComp bl)`. -/

/-- frameset.go `handleMatch`, first half: the `parseInt` calls and the `chunk == 0` test, in the
    order of the Go code.  These are all the ways it fails: after `matchPart` the modifier is one
    of `x`, `y`, `:`, so the `isModifier` test cannot. -/
def readMatch : Match → Except Err Comp
  | .single a => (parseInt a).map .single
  | .range a b => (parseInt a).bind fun s => (parseInt b).map (.range s)
  | .complex a b m n => (parseInt n).bind fun k =>
    if k = 0 then .error .zeroStep
    else (parseInt a).bind fun s => (parseInt b).map fun e => .stepped s e m k

/-- frameset.go `handleMatch`, second half: what is done with the numbers once read (the
    `AppendUnique` calls and the `y` and `:` loops); no error is returned from here -/
def applyComp (bl : Blocks) : Comp → Blocks
  | .single f => bl.appendUnique f f 1
  | .range s e => bl.appendUnique s e (if s > e then -1 else 1)
  | .stepped s e m n =>
    if m = 'x' then bl.appendUnique s e n.natAbs
    else if m = 'y' then
      let dir : Int := if s > e then -1 else 1
      fillLoop (n.natAbs * dir) bl s (mkRng s e dir).iter
    else staggerLoop s e n.natAbs bl

theorem ite_neg_eq_natAbs (k : Int) : (if k < 0 then -k else k) = (k.natAbs : Int) := by
  split
  · rw [Int.ofNat_natAbs_of_nonpos (Int.le_of_lt ‹_›)]
  · rw [Int.natAbs_of_nonneg (Int.not_lt.mp ‹_›)]

theorem handleMatch_eq (bl : Blocks) (m : Match) :
    handleMatch bl m = (readMatch m).map (applyComp bl) := by
  cases m with
  | single a =>
    rw [handleMatch, readMatch]
    cases parseInt a <;> rfl
  | range a b =>
    rw [handleMatch, readMatch]
    cases parseInt a with
    | error e => rfl
    | ok s => cases parseInt b <;> rfl
  | complex a b mod n =>
    rw [handleMatch, readMatch]
    cases parseInt n with
    | error e => rfl
    | ok k =>
      by_cases hk : k = 0
      · subst hk; rfl
      · cases parseInt a with
        | error e => simp only [bind, Except.bind, if_neg hk]; rfl
        | ok s =>
          cases parseInt b with
          | error e => simp only [bind, Except.bind, if_neg hk]; rfl
          | ok e =>
            -- the Go code takes the magnitude of the chunk after the zero test
            simp only [bind, Except.bind, if_neg hk, ← apply_ite pure, ite_neg_eq_natAbs, Int.toNat_natCast]
            rfl

theorem handleMatch_ok (bl : Blocks) (m : Match) :
    (∃ bl', handleMatch bl m = .ok bl') ↔ (readMatch m).isOk = true := by
  rw [handleMatch_eq]
  cases readMatch m with
  | error e => exact ⟨fun ⟨_, h⟩ => (nomatch h), fun h => (nomatch h)⟩
  | ok c => exact ⟨fun _ => rfl, fun _ => ⟨_, rfl⟩⟩

theorem matchOk_eq (m : Match) : matchOk m = (readMatch m).isOk := by
  cases m with
  | single a =>
    rw [readMatch, matchOk, parseInt]
    cases atoi a <;> rfl
  | range a b =>
    rw [readMatch, matchOk, parseInt, parseInt]
    cases atoi a <;> cases atoi b <;> rfl
  | complex a b mod n =>
    rw [readMatch, matchOk, parseInt, parseInt, parseInt]
    cases atoi n with
    | none => cases atoi a <;> cases atoi b <;> rfl
    | some k =>
      by_cases hk : k = 0
      · subst hk; cases atoi a <;> cases atoi b <;> rfl
      · have hk' : (k != 0) = true := bne_iff_ne.2 hk
        simp only [Except.bind, if_neg hk, hk']
        cases atoi a <;> cases atoi b <;> rfl

theorem parseInt_numText {n : Int} {t : Bytes} (h : NumText n t) :
    parseInt t = if minInt64 ≤ n ∧ n ≤ maxInt64 then .ok n else .error .int := by
  unfold parseInt
  rw [atoi_numText n t h]
  by_cases hf : minInt64 ≤ n ∧ n ≤ maxInt64
  · rw [if_pos hf, if_pos hf]
  · rw [if_neg hf, if_neg hf]

theorem parseInt_fits {n : Int} {t : Bytes} (h : NumText n t) (hf : Fits n) :
    parseInt t = .ok n := by
  rw [parseInt_numText h, if_pos (show minInt64 ≤ n ∧ n ≤ maxInt64 from hf)]

theorem parseInt_nofit {n : Int} {t : Bytes} (h : NumText n t) (hf : ¬ Fits n) :
    parseInt t = .error .int := by
  rw [parseInt_numText h, if_neg (show ¬ (minInt64 ≤ n ∧ n ≤ maxInt64) from hf)]

theorem readMatch_valid {c : Comp} {m : Match} (h : MatchOf c m) (hv : c.valid) :
    readMatch m = .ok c := by
  cases h with
  | single ha => rw [readMatch, parseInt_fits ha hv.2]; rfl
  | range ha hb => rw [readMatch, parseInt_fits ha hv.2.1, parseInt_fits hb hv.2.2]; rfl
  | stepped ha hb hn hm =>
    have hn0 := hv.1
    simp only [Comp.ok, Bool.and_eq_true, bne_iff_ne] at hn0
    rw [readMatch, parseInt_fits ha hv.2.1, parseInt_fits hb hv.2.2.1,
      parseInt_fits hn hv.2.2.2, Except.bind, if_neg hn0.2]
    rfl

theorem valid_of_readMatch {c c' : Comp} {m : Match} (h : MatchOf c m) (hr : readMatch m = .ok c') :
    c.valid := by
  cases h with
  | single ha =>
    refine ⟨rfl, Classical.byContradiction fun hf => ?_⟩
    rw [readMatch, parseInt_nofit ha hf] at hr; cases hr
  | @range a b ta tb ha hb =>
    refine ⟨rfl, Classical.byContradiction fun hf => ?_, Classical.byContradiction fun hf => ?_⟩
    · rw [readMatch, parseInt_nofit ha hf] at hr; cases hr
    · rw [readMatch, parseInt_nofit hb hf] at hr
      revert hr; cases parseInt ta <;> exact fun hr => (nomatch hr)
  | @stepped a b n ta tb tn mod ha hb hn hm =>
    rw [readMatch] at hr
    have hfn : Fits n := Classical.byContradiction fun hf => by
      rw [parseInt_nofit hn hf] at hr; cases hr
    rw [parseInt_fits hn hfn, Except.bind] at hr
    have h0 : n ≠ 0 := fun h0 => by rw [if_pos h0] at hr; cases hr
    rw [if_neg h0] at hr
    have hfa : Fits a := Classical.byContradiction fun hf => by
      rw [parseInt_nofit ha hf] at hr; cases hr
    have hfb : Fits b := Classical.byContradiction fun hf => by
      rw [parseInt_nofit hb hf] at hr
      revert hr; cases parseInt ta <;> exact fun hr => (nomatch hr)
    refine ⟨?_, hfa, hfb, hfn⟩
    rcases hm with rfl | rfl | rfl <;> simp [Comp.ok, h0]

theorem applyComp_spec {bl : Blocks} {X : List Int} (h : Denotes bl X) (c : Comp) (hok : c.ok = true) :
    Denotes (applyComp bl c) (X ++ expand c) := by
  cases c with
  | single n => exact h.single n
  | range a b =>
    have h1 := h.appendUnique a b (st := if a > b then -1 else 1) (by split <;> omega)
    rwa [show (((if a > b then (-1 : Int) else 1).natAbs : Nat) : Int) = 1 by split <;> rfl] at h1
  | stepped a b mod n =>
    have hpos : 0 < n.natAbs := by
      simp only [Comp.ok, Bool.and_eq_true, bne_iff_ne] at hok; exact Int.natAbs_pos.2 hok.2
    rw [applyComp, expand]
    by_cases hx : mod = 'x'
    · rw [if_pos hx, if_pos hx]
      exact h.appendUnique a b (Int.natCast_ne_zero.2 (Nat.ne_of_gt hpos))
    · rw [if_neg hx, if_neg hx]
      by_cases hy : mod = 'y'
      · rw [if_pos hy, if_pos hy]
        exact fill_spec h a b n.natAbs hpos
      · rw [if_neg hy, if_neg hy]
        exact staggerLoop_spec a b n.natAbs h

theorem handleMatches_eq (bl : Blocks) (ms : List Match) :
    handleMatches bl ms = (ms.mapM readMatch).map fun cs => cs.foldl applyComp bl := by
  induction ms generalizing bl with
  | nil => rfl
  | cons m ms ih =>
    rw [handleMatches, handleMatch_eq, List.mapM_cons]
    cases readMatch m with
    | error e => rfl
    | ok c =>
      show handleMatches (applyComp bl c) ms = _
      rw [ih]
      cases ms.mapM readMatch <;> rfl

theorem foldl_applyComp_spec (cs : List Comp) (hok : ∀ c ∈ cs, c.ok = true) {bl : Blocks}
    {X : List Int} (h : Denotes bl X) : Denotes (cs.foldl applyComp bl) (X ++ cs.flatMap expand) := by
  induction cs generalizing bl X with
  | nil => exact (List.append_nil _).symm ▸ h
  | cons c cs ih =>
    have := ih (fun c' hc' => hok c' (List.mem_cons_of_mem _ hc'))
      (applyComp_spec h c (hok c List.mem_cons_self))
    rwa [List.append_assoc] at this

theorem mapM_readMatch {cs : List Comp} {ms : List Match} (h : Forall2 MatchOf cs ms) :
    ((∀ c ∈ cs, c.valid) → ms.mapM readMatch = .ok cs) ∧
    (∀ cs', ms.mapM readMatch = .ok cs' → ∀ c ∈ cs, c.valid) := by
  constructor
  · intro hv
    rw [mapM_ok_iff]
    induction h with
    | nil => exact .nil
    | cons hab _ ih =>
      exact .cons (readMatch_valid hab (hv _ List.mem_cons_self))
        (ih fun c hc => hv c (List.mem_cons_of_mem _ hc))
  · intro cs' hr
    rw [mapM_ok_iff] at hr
    induction h generalizing cs' with
    | nil => exact fun _ hc => nomatch hc
    | cons hab _ ih =>
      cases hr with
      | cons h1 h2 =>
        intro c hc
        rcases List.mem_cons.1 hc with rfl | hc
        · exact valid_of_readMatch hab h1
        · exact ih _ h2 c hc

/-- `NewFrameSet` in three steps: split and match, read the numbers, append -/
theorem parse_eq (s : Bytes) :
    FrameSet.parse s = (frameRangeMatches s).bind fun ms =>
      (ms.mapM readMatch).map fun cs => ⟨s, cs.foldl applyComp []⟩ := by
  unfold FrameSet.parse
  cases frameRangeMatches s with
  | error e => rfl
  | ok ms =>
    show (handleMatches [] ms).bind _ = (ms.mapM readMatch).map _
    rw [handleMatches_eq]
    cases ms.mapM readMatch <;> rfl

/-- … so a result comes from matches whose numbers could all be read -/
theorem parse_ok_elim {s : Bytes} {fs : FrameSet} (h : FrameSet.parse s = .ok fs) :
    ∃ ms cs, frameRangeMatches s = .ok ms ∧ ms.mapM readMatch = .ok cs ∧
      fs = ⟨s, cs.foldl applyComp []⟩ := by
  rw [parse_eq] at h
  cases hm : frameRangeMatches s with
  | error e => rw [hm] at h; cases h
  | ok ms =>
    rw [hm, Except.bind] at h
    cases hc : ms.mapM readMatch with
    | error e => rw [hc] at h; cases h
    | ok cs => rw [hc] at h; cases h; exact ⟨ms, cs, rfl, hc, rfl⟩

theorem parse_rangeText (cs : List Comp) (txt : Bytes) (hne : cs ≠ [])
    (ht : RangeText cs txt) (hv : ∀ c ∈ cs, c.valid) :
    ∃ fs, FrameSet.parse txt = .ok fs ∧ fs.frames = denote cs ∧ WF fs.blocks := by
  obtain ⟨ms, hms, hrel⟩ := frameRangeMatches_complete hne ht
  obtain ⟨hwf, henum⟩ := foldl_applyComp_spec cs (fun c hc => (hv c hc).1) denotes_nil
  refine ⟨⟨txt, cs.foldl applyComp []⟩, ?_, ?_, hwf⟩
  · rw [parse_eq, hms, Except.bind, (mapM_readMatch hrel).1 hv]; rfl
  · rw [FrameSet.frames, blocks_iter _ hwf, henum]
    rfl

theorem parse_rangeText_ok {cs : List Comp} {txt : Bytes} {fs : FrameSet} (hne : cs ≠ [])
    (ht : RangeText cs txt) (h : FrameSet.parse txt = .ok fs) :
    (∀ c ∈ cs, c.valid) ∧ fs.frames = denote cs ∧ WF fs.blocks := by
  have hv : ∀ c ∈ cs, c.valid := by
    obtain ⟨ms, hms, hrel⟩ := frameRangeMatches_complete hne ht
    obtain ⟨ms', cs', hms', hr, -⟩ := parse_ok_elim h
    cases hms.symm.trans hms'
    exact (mapM_readMatch hrel).2 cs' hr
  obtain ⟨fs', h', hf, hw⟩ := parse_rangeText cs txt hne ht hv
  cases h.symm.trans h'
  exact ⟨hv, hf, hw⟩

/-- C01 (rejection), with the result: nothing but a text of valid components parses -/
theorem parse_ok_sound {txt : Bytes} {fs : FrameSet} (h : FrameSet.parse txt = .ok fs) :
    ∃ cs, cs ≠ [] ∧ RangeText cs txt ∧ (∀ c ∈ cs, c.valid) ∧ fs.frames = denote cs ∧ WF fs.blocks := by
  obtain ⟨ms, -, hm, -, -⟩ := parse_ok_elim h
  obtain ⟨cs, hne, hrt, -⟩ := frameRangeMatches_sound txt ms hm
  obtain ⟨hv, hf, hw⟩ := parse_rangeText_ok hne hrt h
  exact ⟨cs, hne, hrt, hv, hf, hw⟩

theorem parse_ok_wf {txt : Bytes} {fs : FrameSet} (h : FrameSet.parse txt = .ok fs) : WF fs.blocks :=
  let ⟨_, _, _, _, _, hw⟩ := parse_ok_sound h
  hw

theorem parse_numeral (t : Bytes) (v : Int) (h : NumText v t) (hf : Fits v) :
    ∃ fs, FrameSet.parse t = .ok fs ∧ fs.frames = [v] := by
  obtain ⟨fs, hp, hfr, -⟩ := parse_rangeText [.single v] t (List.cons_ne_nil _ _)
    (rangeText_join (.cons ⟨.single t, .single h, rfl⟩ .nil))
    (fun c hc => by rw [List.mem_singleton.1 hc]; exact ⟨rfl, hf⟩)
  exact ⟨fs, hp, hfr⟩

theorem parse_numeral_ok {t : Bytes} {v : Int} {fs : FrameSet} (h : NumText v t)
    (hp : FrameSet.parse t = .ok fs) : fs.frames = [v] ∧ WF fs.blocks :=
  (parse_rangeText_ok (List.cons_ne_nil _ _)
    (rangeText_join (.cons ⟨.single t, .single h, rfl⟩ .nil)) hp).2

theorem parse_part (c : Comp) (p : Bytes) (hc : CompText c (stripJunk p)) (hv : c.valid) :
    ∃ fs, FrameSet.parse p = .ok fs ∧ fs.frames = dedupFirst (expand c) := by
  have hrt : RangeText [c] p := ⟨[stripJunk p], .cons hc .nil, rfl⟩
  obtain ⟨fs, hfs, hfr, _⟩ := parse_rangeText [c] p (by simp) hrt
    (by intro c' hc'; simp at hc'; subst hc'; exact hv)
  refine ⟨fs, hfs, ?_⟩
  rw [hfr]
  simp [denote]

theorem ok_stepped_x {a b n : Int} (hn : n ≠ 0) : (Comp.stepped a b 'x' n).ok = true := by
  rw [Comp.ok, bne_iff_ne.2 hn]; rfl

/-- print → parse: a writer that joins, with commas, one text `pr x` of the component `rd x`
    per item -/
theorem parse_printed {α : Type} (rd : α → Comp) (pr : α → Bytes) (xs : List α) (hne : xs ≠ [])
    (hpr : ∀ x ∈ xs, CompText (rd x) (pr x)) (hv : ∀ x ∈ xs, (rd x).valid) :
    ∃ fs, FrameSet.parse (joinWith ',' (xs.map pr)) = .ok fs ∧
      fs.frames = dedupFirst (xs.flatMap fun x => expand (rd x)) ∧ WF fs.blocks := by
  have h := parse_rangeText (xs.map rd) _ (fun e => hne (List.map_eq_nil_iff.mp e))
    (rangeText_join (forall2_map rd pr xs hpr))
    (fun c hc => by obtain ⟨x, hx, rfl⟩ := List.mem_map.mp hc; exact hv x hx)
  rwa [denote, List.flatMap_map] at h

theorem parse_frange (r : Bytes) (fs : FrameSet) (h : FrameSet.parse r = .ok fs) : fs.frange = r := by
  obtain ⟨-, -, -, -, rfl⟩ := parse_ok_elim h
  rfl

theorem parse_reparses (r : Bytes) (fs : FrameSet) (h : FrameSet.parse r = .ok fs) :
    FrameSet.parse fs.frange = .ok fs := by
  rw [parse_frange r fs h]
  exact h

theorem parse_nil : FrameSet.parse [] = .error .parse := by
  rfl

theorem handleMatch_ok_iff (bl : Blocks) (p : Bytes) (m : Match) (hm : matchPart p = some m) :
    (∃ bl', handleMatch bl m = .ok bl') ↔ matchOk m = true :=
  matchOk_eq m ▸ handleMatch_ok bl m

theorem isFrameRange_iff (s : Bytes) :
    isFrameRange s = true ↔ ∃ fs, FrameSet.parse s = .ok fs := by
  rw [parse_eq]
  unfold isFrameRange
  cases frameRangeMatches s with
  | error e => exact ⟨fun h => (nomatch h), fun ⟨_, h⟩ => (nomatch h)⟩
  | ok ms =>
    show ms.all matchOk = true ↔ ∃ fs, (ms.mapM readMatch).map _ = .ok fs
    rw [funext matchOk_eq, ← mapM_isOk_iff]
    cases ms.mapM readMatch with
    | error e => exact ⟨fun h => (nomatch h), fun ⟨_, h⟩ => (nomatch h)⟩
    | ok cs => exact ⟨fun _ => ⟨_, rfl⟩, fun _ => rfl⟩

end Gfs.Proofs
