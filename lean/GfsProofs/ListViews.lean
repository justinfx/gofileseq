/-
  GfsProofs.ListViews — the list views of the specification: `valueAt` / `idxOf` (how they read a
  position of a list; on a duplicate-free list they are inverse to each other) and `listMin` /
  `listMax` (the fold they run picks a member that none is better than).
-/
import GfsSpec.WF

namespace Gfs.Proofs
open Gfs Gfs.Spec

theorem valueAt_neg (L : List Int) {i : Int} (hi : i < 0) : valueAt L i = .error .index :=
  if_neg (fun h => absurd h.1 (Int.not_le.mpr hi))

theorem valueAt_natCast (L : List Int) (k : Nat) :
    valueAt L (k : Int) = (L[k]?).elim (.error .index) .ok := by
  unfold valueAt
  rw [Int.toNat_natCast, List.getD_eq_getElem?_getD]
  by_cases hk : k < L.length
  · rw [if_pos ⟨Int.natCast_nonneg k, Int.ofNat_lt.mpr hk⟩, List.getElem?_eq_getElem hk]; rfl
  · rw [if_neg (fun h => hk (Int.ofNat_lt.mp h.2)), List.getElem?_eq_none (Nat.le_of_not_lt hk)]; rfl

theorem valueAt_append (L1 L2 : List Int) (k : Nat) :
    valueAt (L1 ++ L2) (k : Int) =
      if k < L1.length then valueAt L1 (k : Int) else valueAt L2 ((k - L1.length : Nat) : Int) := by
  rw [valueAt_natCast, List.getElem?_append]
  split <;> rw [valueAt_natCast]

theorem idxOf_ge (L : List Int) (v : Int) : -1 ≤ idxOf L v := by
  unfold idxOf; split <;> omega

theorem idxOf_append (L1 L2 : List Int) (v : Int) :
    idxOf (L1 ++ L2) v =
      if 0 ≤ idxOf L1 v then idxOf L1 v
      else if 0 ≤ idxOf L2 v then idxOf L2 v + L1.length else -1 := by
  unfold idxOf List.idxOf?
  rw [List.findIdx?_append]
  cases h1 : List.findIdx? (fun x => x == v) L1 with
  | some i => simp
  | none =>
    cases h2 : List.findIdx? (fun x => x == v) L2 with
    | some j => simp
    | none => simp

theorem idxOf?_getElem_nodup (L : List Int) (hnd : L.Nodup) (k : Nat) (hk : k < L.length) :
    L.idxOf? L[k] = some k := by
  rw [List.idxOf?_eq_some_iff]
  refine ⟨hk, rfl, ?_⟩
  intro j hj heq
  have hjl : j < L.length := Nat.lt_trans hj hk
  exact (List.pairwise_iff_getElem.mp hnd) j k hjl hk hj heq

theorem idxOf?_of_mem (L : List Int) (v : Int) (hv : v ∈ L) :
    ∃ k, ∃ hk : k < L.length, L.idxOf? v = some k ∧ L[k] = v := by
  cases h : L.idxOf? v with
  | none => exact absurd hv (List.idxOf?_eq_none_iff.mp h)
  | some k =>
    obtain ⟨hk, hget, _⟩ := List.idxOf?_eq_some_iff.mp h
    exact ⟨k, hk, rfl, hget⟩

/-- For a duplicate-free list, `valueAt` and `idxOf` are inverse bijections between
    [0,len) and the members. Stated for arbitrary accessor functions that agree with the
    list views, so that it applies to any container proved to be a view of `L`. -/
theorem views_bijection (L : List Int) (hnd : L.Nodup)
    (len : Int) (hlen : len = L.length)
    (value : Int → Except Err Int) (hval : ∀ i, value i = valueAt L i)
    (index : Int → Int) (hidx : ∀ v, index v = idxOf L v)
    (has : Int → Bool) (hhas : ∀ v, has v = true ↔ v ∈ L) :
    (∀ i, 0 ≤ i → i < len → ∃ v, value i = .ok v ∧ index v = i) ∧
    (∀ v, has v = true → 0 ≤ index v ∧ index v < len ∧ value (index v) = .ok v) := by
  subst hlen
  constructor
  · intro i h0 hi
    obtain ⟨k, rfl⟩ := Int.eq_ofNat_of_zero_le h0
    have hk : k < L.length := by omega
    refine ⟨L[k], ?_, ?_⟩
    · rw [hval, valueAt_natCast, List.getElem?_eq_getElem hk]; rfl
    · rw [hidx]
      unfold idxOf
      rw [idxOf?_getElem_nodup L hnd k hk]
  · intro v hv
    obtain ⟨k, hk, hik, hget⟩ := idxOf?_of_mem L v ((hhas v).mp hv)
    have hi : index v = (k : Int) := by
      rw [hidx]; unfold idxOf; rw [hik]
    rw [hi]
    refine ⟨by omega, by omega, ?_⟩
    rw [hval, valueAt_natCast, List.getElem?_eq_getElem hk, hget]; rfl

/-- The fold that `listMin`, `listMax`, `Blocks.min` and `Blocks.max` run, for any relation
    `lt` ("better than") whose negation is a total preorder: the result is the start value or a
    member, and nothing is better than it. -/
theorem foldl_pick_spec (lt : Int → Int → Prop) [DecidableRel lt]
    (hasymm : ∀ {a b}, lt a b → ¬ lt b a) (htrans : ∀ {a b c}, ¬ lt a b → ¬ lt b c → ¬ lt a c)
    (L : List Int) (i : Int) :
    let x := L.foldl (fun m v => if lt v m then v else m) i
    ¬ lt i x ∧ (∀ v ∈ L, ¬ lt v x) ∧ (x = i ∨ x ∈ L) := by
  induction L generalizing i with
  | nil => exact ⟨fun h => hasymm h h, fun _ hv => absurd hv List.not_mem_nil, Or.inl rfl⟩
  | cons a L ih =>
    rw [List.foldl_cons]
    obtain ⟨h1, h2, h3⟩ := ih (if lt a i then a else i)
    -- the value carried on is `a` or `i`, and neither of them is better than it
    obtain ⟨hj, hi, ha⟩ : ((if lt a i then a else i) = a ∨ (if lt a i then a else i) = i) ∧
        ¬ lt i (if lt a i then a else i) ∧ ¬ lt a (if lt a i then a else i) := by
      by_cases hc : lt a i
      · rw [if_pos hc]; exact ⟨Or.inl rfl, hasymm hc, fun h => hasymm h h⟩
      · rw [if_neg hc]; exact ⟨Or.inr rfl, fun h => hasymm h h, hc⟩
    refine ⟨htrans hi h1, ?_, ?_⟩
    · intro v hv
      rcases List.mem_cons.mp hv with rfl | hv
      · exact htrans ha h1
      · exact h2 v hv
    · rcases h3 with h3 | h3
      · rcases hj with hj | hj
        · exact Or.inr (by rw [h3, hj]; exact List.mem_cons_self)
        · exact Or.inl (by rw [h3, hj])
      · exact Or.inr (List.mem_cons_of_mem _ h3)

theorem listMin_spec (L : List Int) (hne : L ≠ []) :
    listMin L ∈ L ∧ ∀ v ∈ L, listMin L ≤ v := by
  obtain ⟨_, h2, h3⟩ := foldl_pick_spec (· < ·) (fun h => by omega) (fun h h' => by omega)
    L (L.headD 0)
  unfold listMin
  refine ⟨h3.elim (fun h => ?_) id, fun v hv => Int.not_lt.mp (h2 v hv)⟩
  cases L with
  | nil => exact absurd rfl hne
  | cons a L => rw [h]; exact List.mem_cons_self

theorem listMax_spec (L : List Int) (hne : L ≠ []) :
    listMax L ∈ L ∧ ∀ v ∈ L, v ≤ listMax L := by
  obtain ⟨_, h2, h3⟩ := foldl_pick_spec (· > ·) (fun h => by omega) (fun h h' => by omega)
    L (L.headD 0)
  unfold listMax
  refine ⟨h3.elim (fun h => ?_) id, fun v hv => Int.not_lt.mp (h2 v hv)⟩
  cases L with
  | nil => exact absurd rfl hne
  | cons a L => rw [h]; exact List.mem_cons_self

theorem listMin_eq (L : List Int) (x : Int) (hx : x ∈ L) (hlb : ∀ v ∈ L, x ≤ v) : listMin L = x := by
  obtain ⟨h1, h2⟩ := listMin_spec L (List.ne_nil_of_mem hx)
  exact Int.le_antisymm (h2 x hx) (hlb _ h1)

theorem listMax_eq (L : List Int) (x : Int) (hx : x ∈ L) (hub : ∀ v ∈ L, v ≤ x) : listMax L = x := by
  obtain ⟨h1, h2⟩ := listMax_spec L (List.ne_nil_of_mem hx)
  exact Int.le_antisymm (hub _ h1) (h2 x hx)

end Gfs.Proofs
