/-
  GfsProofs.CppLemmas — where the C++ port (GfsModel.Cpp) handles a range text differently from
  the Go library (getline splitting, stol overflow, zfill, padFrameRange), the difference does not
  show on the domain of C19.
-/
import GfsModel.Cpp
import GfsProofs.PadLemmas
import GfsProofs.ParseSem

namespace Gfs.Proofs
open Gfs Gfs.Spec

theorem cpp_zfill_eq_spec (v z : Int) : Cpp.zfill v z = zfillSpec v z := by
  unfold Cpp.zfill zfillSpec
  by_cases h : v < 0
  · simp only [if_pos h, List.length_singleton, List.cons_append, List.nil_append, Nat.sub_sub,
      Nat.add_comm]
  · simp only [if_neg h, List.length_nil, List.nil_append, Nat.sub_zero]

theorem cpp_zfill_eq (v z : Int) : Cpp.zfill v z = zfillInt v z := by
  rw [cpp_zfill_eq_spec, zfillInt_eq_spec]

/-- `std::getline` drops an empty last part: when no part is empty it yields what `strings.Split`
    yields -/
theorem splitGetline_eq (sep : Char) (s : Bytes)
    (h : ∀ p ∈ splitOn sep s, p ≠ []) : Cpp.splitGetline sep s = splitOn sep s := by
  unfold Cpp.splitGetline
  simp only
  split
  · rename_i hl
    have hm : ([] : Bytes) ∈ splitOn sep s := List.mem_of_getLast? hl
    exact absurd rfl (h [] hm)
  · rfl

/-- the Go test of one match is the port's two: the numerals fit a long, the step is not zero -/
theorem matchOk_fits_step (m : Match) : matchOk m = (Cpp.matchFits m && Cpp.stepOk m) := by
  cases m with
  | single a => simp [matchOk, Cpp.matchFits, Cpp.stepOk]
  | range a b => simp [matchOk, Cpp.matchFits, Cpp.stepOk]
  | complex a b mc n =>
    cases h : atoi n with
    | none => simp [matchOk, Cpp.matchFits, h]
    | some v => simp [matchOk, Cpp.matchFits, Cpp.stepOk, h, bne]

theorem matchParts_ok {parts : List Bytes} {ms : List Match}
    (h : Forall2 (fun p m => matchPart p = some m) parts ms)
    (hf : ∀ m ∈ ms, Cpp.matchFits m = true) : Cpp.matchParts parts = .ok ms := by
  induction h with
  | nil => rfl
  | @cons p m ps ms hp _ ih =>
    rw [Cpp.matchParts, hp]
    simp only [hf m List.mem_cons_self, ih fun m' hm' => hf m' (List.mem_cons_of_mem _ hm')]
    rfl

theorem cpp_matches_eq (s : Bytes) (fs : FrameSet) (h : FrameSet.parse s = .ok fs) :
    ∃ ms bl, Cpp.frameRangeMatches s = .ok ms ∧ handleMatches [] ms = .ok bl ∧ fs = ⟨s, bl⟩ ∧
      ms.all Cpp.stepOk = true := by
  obtain ⟨ms, cs, hms, hcs, rfl⟩ := parse_ok_elim h
  have hok : ms.all matchOk = true := by rw [funext matchOk_eq, ← mapM_isOk_iff, hcs]; rfl
  simp only [List.all_eq_true, matchOk_fits_step, Bool.and_eq_true] at hok
  have hparts := (mapM_partStep_ok _ ms).1 ((frameRangeMatches_eq s).symm.trans hms)
  -- a part that matches is not empty, so `getline` drops none
  have hne : ∀ p ∈ splitOn ',' (stripJunk s), p ≠ [] := fun p hp h0 => by
    obtain ⟨m, _, hm⟩ := forall2_mem_left hparts p hp
    rw [h0, matchPart_nil] at hm
    cases hm
  refine ⟨ms, _, ?_, by rw [handleMatches_eq, hcs]; rfl, rfl,
    List.all_eq_true.2 fun m hm => (hok m hm).2⟩
  rw [Cpp.frameRangeMatches, splitGetline_eq ',' (stripJunk s) hne]
  exact matchParts_ok hparts fun m hm => (hok m hm).1

def cppPadMatch (w : Int) : Match → Match
  | .single a => .single (Cpp.zfill (Cpp.num a) w)
  | .range a b => .range (Cpp.zfill (Cpp.num a) w) (Cpp.zfill (Cpp.num b) w)
  | .complex a b m n => .complex (Cpp.zfill (Cpp.num a) w) (Cpp.zfill (Cpp.num b) w) m (itoa (Cpp.num n))

theorem cpp_padPart_eq (w : Int) (part : Bytes) :
    Cpp.padPart w part = match matchPart part with
      | some m => matchText (cppPadMatch w m)
      | none => part := by
  unfold Cpp.padPart
  cases matchPart part with
  | none => rfl
  | some m => cases m <;> rfl

theorem cpp_num_of_numText {n : Int} {t : Bytes} (h : NumText n t) (hf : Fits n) : Cpp.num t = n := by
  rw [Cpp.num, atoi_numText n t h, if_pos (show minInt64 ≤ n ∧ n ≤ maxInt64 from hf)]
  rfl

theorem matchOf_cppPadMatch (w : Int) (c : Comp) (m : Match) (h : MatchOf c m) (hf : c.fits) :
    MatchOf c (cppPadMatch w m) := by
  cases h with
  | single ha =>
    simp only [cppPadMatch, cpp_num_of_numText ha hf, cpp_zfill_eq]
    exact .single (zfillInt_numText _ _)
  | range ha hb =>
    simp only [cppPadMatch, cpp_num_of_numText ha hf.1, cpp_num_of_numText hb hf.2, cpp_zfill_eq]
    exact .range (zfillInt_numText _ _) (zfillInt_numText _ _)
  | stepped ha hb hn hm =>
    simp only [cppPadMatch, cpp_num_of_numText ha hf.1, cpp_num_of_numText hb hf.2.1,
      cpp_num_of_numText hn hf.2.2, cpp_zfill_eq]
    exact .stepped (zfillInt_numText _ _) (zfillInt_numText _ _) (itoa_numText _) hm

end Gfs.Proofs
