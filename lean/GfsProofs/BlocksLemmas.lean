/-
  GfsProofs.BlocksLemmas — a well-formed InclusiveRanges behaves like the concatenation of
  its blocks' enumerations, and AppendUnique preserves well-formedness and appends exactly
  the new values.
-/
import GfsProofs.RngLemmas

namespace Gfs.Proofs
open Gfs Gfs.Spec

def blocksEnum (bl : Blocks) : List Int := bl.flatMap rngEnum

@[simp] theorem blocksEnum_nil : blocksEnum [] = [] := rfl
@[simp] theorem blocksEnum_cons (b : Rng) (bs : Blocks) :
    blocksEnum (b :: bs) = rngEnum b ++ blocksEnum bs := by
  simp [blocksEnum]
theorem blocksEnum_append (a b : Blocks) :
    blocksEnum (a ++ b) = blocksEnum a ++ blocksEnum b := by
  simp [blocksEnum]
theorem mem_blocksEnum {bl : Blocks} {v : Int} :
    v ∈ blocksEnum bl ↔ ∃ r ∈ bl, v ∈ rngEnum r := by
  simp [blocksEnum]

theorem wf_nil : WF ([] : Blocks) :=
  ⟨fun _ hr => absurd hr List.not_mem_nil, List.Pairwise.nil⟩

theorem wf_tail {b : Rng} {bs : Blocks} (h : WF (b :: bs)) : WF bs := by
  obtain ⟨h1, h2⟩ := h
  exact ⟨fun r hr => h1 r (List.mem_cons_of_mem _ hr), (List.pairwise_cons.mp h2).2⟩

theorem wf_head {b : Rng} {bs : Blocks} (h : WF (b :: bs)) : WellSigned b :=
  h.1 b (List.mem_cons_self)

theorem blocks_iter (bl : Blocks) (h : WF bl) : Blocks.iter bl = blocksEnum bl := by
  induction bl with
  | nil => rfl
  | cons b bs ih =>
    simp only [Blocks.iter, List.flatMap_cons, blocksEnum_cons] at *
    rw [rng_iter b (wf_head h), ih (wf_tail h)]

/-- how both loops establish `WF`: they build the enumeration, and it has no duplicates -/
theorem wf_iff_nodup {bl : Blocks} (hws : ∀ r ∈ bl, WellSigned r) :
    WF bl ↔ (blocksEnum bl).Nodup := by
  have hdisj : ∀ r1 r2 : Rng, (∀ v, v ∈ rngEnum r1 → v ∉ rngEnum r2) ↔
      ∀ x ∈ rngEnum r1, ∀ y ∈ rngEnum r2, x ≠ y :=
    fun r1 r2 => ⟨fun h x hx y hy e => h x hx (e ▸ hy), fun h v h1 h2 => h v h1 v h2 rfl⟩
  unfold WF blocksEnum List.Nodup
  simp only [List.pairwise_flatMap, hdisj]
  exact ⟨fun h => ⟨fun r hr => rng_nodup r (hws r hr), h.2⟩, fun h => ⟨hws, h.2⟩⟩

theorem blocks_nodup (bl : Blocks) (h : WF bl) : (blocksEnum bl).Nodup :=
  (wf_iff_nodup h.1).mp h

theorem blocks_len_aux (bl : Blocks) (h : WF bl) (n : Int) :
    bl.foldl (fun acc b => acc + b.len) n = n + (blocksEnum bl).length := by
  induction bl generalizing n with
  | nil => simp
  | cons b bs ih =>
    rw [List.foldl_cons, ih (wf_tail h), rng_len b (wf_head h), blocksEnum_cons, List.length_append]
    omega

theorem blocks_len (bl : Blocks) (h : WF bl) : Blocks.len bl = (blocksEnum bl).length := by
  unfold Blocks.len
  rw [blocks_len_aux bl h]; omega

theorem blocks_contains (bl : Blocks) (h : ∀ r ∈ bl, WellSigned r) (v : Int) :
    Blocks.contains bl v = true ↔ v ∈ blocksEnum bl := by
  rw [mem_blocksEnum]
  simp only [Blocks.contains, List.any_eq_true]
  exact ⟨fun ⟨r, hr, hc⟩ => ⟨r, hr, (rng_contains r (h r hr) v).mp hc⟩,
    fun ⟨r, hr, hc⟩ => ⟨r, hr, (rng_contains r (h r hr) v).mpr hc⟩⟩

theorem blocks_valueAux (bl : Blocks) (h : WF bl) (n : Int) (k : Nat) :
    Blocks.valueAux bl (n + (k : Int)) n = valueAt (blocksEnum bl) (k : Int) := by
  induction bl generalizing n k with
  | nil => rw [Blocks.valueAux, blocksEnum_nil, valueAt_natCast]; rfl
  | cons b bs ih =>
    have hk : n + (k : Int) - n = (k : Int) := by omega
    rw [Blocks.valueAux, hk, blocksEnum_cons, valueAt_append, rng_value b (wf_head h),
      rng_len b (wf_head h)]
    by_cases hc : k < (rngEnum b).length
    · rw [if_pos (Int.ofNat_lt.mpr hc), if_pos hc, valueAt_natCast, List.getElem?_eq_getElem hc]
      rfl
    · have hsplit : n + (k : Int) =
          n + ((rngEnum b).length : Int) + ((k - (rngEnum b).length : Nat) : Int) := by omega
      rw [if_neg (fun hlt => hc (Int.ofNat_lt.mp hlt)), if_neg hc, hsplit]
      exact ih (wf_tail h) _ _

theorem blocks_value (bl : Blocks) (h : WF bl) (i : Int) :
    Blocks.value bl i = valueAt (blocksEnum bl) i := by
  unfold Blocks.value
  by_cases hi : i < 0
  · rw [if_pos hi, valueAt_neg _ hi]
  · obtain ⟨k, rfl⟩ := Int.eq_ofNat_of_zero_le (Int.not_lt.mp hi)
    have := blocks_valueAux bl h 0 k
    rw [Int.zero_add] at this
    rw [if_neg hi, this]

theorem blocks_indexAux (bl : Blocks) (h : WF bl) (v n : Int) :
    Blocks.indexAux bl v n =
      if 0 ≤ idxOf (blocksEnum bl) v then idxOf (blocksEnum bl) v + n else -1 := by
  induction bl generalizing n with
  | nil => simp [Blocks.indexAux, idxOf]
  | cons b bs ih =>
    rw [Blocks.indexAux, blocksEnum_cons, idxOf_append]
    rw [rng_index b (wf_head h), ih (wf_tail h), rng_len b (wf_head h)]
    by_cases h1 : 0 ≤ idxOf (rngEnum b) v
    · simp [h1]
    · by_cases h2 : 0 ≤ idxOf (blocksEnum bs) v
      · simp [h1, h2]; omega
      · simp [h1, h2]

theorem blocks_index (bl : Blocks) (h : WF bl) (v : Int) :
    Blocks.index bl v = idxOf (blocksEnum bl) v := by
  unfold Blocks.index
  rw [blocks_indexAux bl h]
  have := idxOf_ge (blocksEnum bl) v
  split <;> omega

theorem blocks_start (bl : Blocks) (h : WF bl) (hne : bl ≠ []) :
    (blocksEnum bl).head? = some (Blocks.start bl) := by
  cases bl with
  | nil => exact absurd rfl hne
  | cons b bs =>
    rw [blocksEnum_cons, List.head?_append, rng_head b (wf_head h)]
    rfl

theorem blocks_fin (bl : Blocks) (h : WF bl) (hne : bl ≠ []) :
    (blocksEnum bl).getLast? = some (Blocks.fin bl) := by
  induction bl with
  | nil => exact absurd rfl hne
  | cons b bs ih =>
    rw [blocksEnum_cons, List.getLast?_append]
    cases bs with
    | nil =>
      simp [Blocks.fin, rng_fin b (wf_head h)]
    | cons c cs =>
      rw [ih (wf_tail h) (by simp)]
      simp [Blocks.fin, List.getLast?_cons_cons]

theorem blocksEnum_ne_nil (bl : Blocks) (h : WF bl) (hne : bl ≠ []) : blocksEnum bl ≠ [] := by
  intro hnil
  have := blocks_start bl h hne
  rw [hnil] at this
  simp at this

/-- `Blocks.min` / `Blocks.max`: the fold over the blocks' own extrema `f b`, started at a member -/
theorem blocks_pick (lt : Int → Int → Prop) [DecidableRel lt]
    (hasymm : ∀ {a b}, lt a b → ¬ lt b a) (htrans : ∀ {a b c}, ¬ lt a b → ¬ lt b c → ¬ lt a c)
    (f : Rng → Int) (bl : Blocks)
    (hf : ∀ b ∈ bl, f b ∈ rngEnum b ∧ ∀ v ∈ rngEnum b, ¬ lt v (f b))
    (i : Int) (hi : i ∈ blocksEnum bl) :
    let x := bl.foldl (fun v b => if lt (f b) v then f b else v) i
    x ∈ blocksEnum bl ∧ ∀ v ∈ blocksEnum bl, ¬ lt v x := by
  intro x
  have hx : x = (bl.map f).foldl (fun m v => if lt v m then v else m) i := by rw [List.foldl_map]
  obtain ⟨_, h2, h3⟩ := foldl_pick_spec lt hasymm htrans (bl.map f) i
  rw [← hx] at h2 h3
  constructor
  · rcases h3 with h3 | h3
    · exact h3 ▸ hi
    · obtain ⟨b, hb, hbx⟩ := List.mem_map.mp h3
      exact mem_blocksEnum.mpr ⟨b, hb, hbx ▸ (hf b hb).1⟩
  · intro v hv
    obtain ⟨b, hb, hvb⟩ := mem_blocksEnum.mp hv
    exact htrans ((hf b hb).2 v hvb) (h2 _ (List.mem_map_of_mem hb))

theorem blocks_min (bl : Blocks) (h : WF bl) : Blocks.min bl = listMin (blocksEnum bl) := by
  by_cases hne : bl = []
  · rw [hne]; rfl
  obtain ⟨h1, h2⟩ := blocks_pick (· < ·) (fun h => by omega) (fun h h' => by omega) Rng.min bl
    (fun b hb => by
      rw [rng_min b (h.1 b hb)]
      have := listMin_spec _ (rng_ne_nil b (h.1 b hb))
      exact ⟨this.1, fun v hv => Int.not_lt.mpr (this.2 v hv)⟩)
    (Blocks.start bl) (List.mem_of_mem_head? (blocks_start bl h hne))
  exact (listMin_eq _ _ h1 fun v hv => Int.not_lt.mp (h2 v hv)).symm

theorem blocks_max (bl : Blocks) (h : WF bl) : Blocks.max bl = listMax (blocksEnum bl) := by
  by_cases hne : bl = []
  · rw [hne]; rfl
  obtain ⟨h1, h2⟩ := blocks_pick (· > ·) (fun h => by omega) (fun h h' => by omega) Rng.max bl
    (fun b hb => by
      rw [rng_max b (h.1 b hb)]
      have := listMax_spec _ (rng_ne_nil b (h.1 b hb))
      exact ⟨this.1, fun v hv => Int.not_lt.mpr (this.2 v hv)⟩)
    (Blocks.fin bl) (List.mem_of_mem_getLast? (blocks_fin bl h hne))
  exact (listMax_eq _ _ h1 fun v hv => Int.not_lt.mp (h2 v hv)).symm

theorem blocks_min_max (bl : Blocks) (h : WF bl) :
    Blocks.min bl ≤ Blocks.max bl ∧
    (∀ v ∈ blocksEnum bl, Blocks.min bl ≤ v ∧ v ≤ Blocks.max bl) := by
  by_cases hne : bl = []
  · rw [hne]; exact ⟨Int.le_refl _, fun v hv => absurd hv List.not_mem_nil⟩
  have hL := blocksEnum_ne_nil bl h hne
  have h1 := listMin_spec _ hL
  have h2 := listMax_spec _ hL
  rw [blocks_min bl h, blocks_max bl h]
  exact ⟨h2.2 _ h1.1, fun v hv => ⟨h1.2 v hv, h2.2 v hv⟩⟩

/-- What the loops of `AppendUnique` and `normalized` keep: the emitted blocks `out` and a pending
    run `a, a+d, …, last` of `p` values enumerate `L`.  The loops start a run, extend it by its next
    term, or close it as a block of its own. -/
def RunInv (out : Blocks) (a d : Int) (p : Nat) (last : Int) (L : List Int) : Prop :=
  (∀ r ∈ out, WellSigned r) ∧ blocksEnum out ++ prog a d p = L ∧
  (0 < p → d ≠ 0 ∧ last + d = a + d * (p : Int))

namespace RunInv
variable {out : Blocks} {a d last : Int} {p : Nat} {L : List Int}

theorem start (h : RunInv out a d 0 last L) (c : Int) {d' : Int} (hd' : d' ≠ 0) :
    RunInv out c d' 1 c (L ++ [c]) :=
  ⟨h.1, by rw [prog_one, ← h.2.1, prog_zero, List.append_nil],
    fun _ => ⟨hd', by rw [Int.natCast_one, Int.mul_one]⟩⟩

theorem extend (h : RunInv out a d p last L) (hp : 0 < p) :
    RunInv out a d (p + 1) (last + d) (L ++ [last + d]) := by
  obtain ⟨hws, hE, hrun⟩ := h
  obtain ⟨hd, hl⟩ := hrun hp
  refine ⟨hws, by rw [prog_succ, ← List.append_assoc, hE, hl], fun _ => ⟨hd, ?_⟩⟩
  rw [Int.natCast_add, Int.mul_add, Int.natCast_one, Int.mul_one, hl, Int.add_assoc]

theorem flush (h : RunInv out a d p last L) (hp : 0 < p) (a' d' last' : Int) :
    RunInv (out ++ [mkRng a last d]) a' d' 0 last' L := by
  obtain ⟨hws, hE, hrun⟩ := h
  obtain ⟨hd, hl⟩ := hrun hp
  obtain ⟨q, rfl⟩ := Nat.exists_eq_add_one_of_ne_zero (Nat.ne_zero_of_lt hp)
  rw [Int.natCast_add, Int.mul_add, Int.natCast_one, Int.mul_one] at hl
  obtain ⟨hw, he⟩ := RngAux.mkRng_prog a hd q (b := last) (by omega)
  refine ⟨List.forall_mem_append.mpr ⟨hws, List.forall_mem_singleton.mpr hw⟩, ?_,
    fun h0 => absurd h0 (Nat.lt_irrefl 0)⟩
  rw [blocksEnum_append, blocksEnum_cons, blocksEnum_nil, List.append_nil, he, prog_zero,
    List.append_nil, hE]

/-- the last statement of both loops: a pending run is closed -/
theorem result (h : RunInv out a d p last L) :
    let res := if p > 0 then out ++ [mkRng a last d] else out
    (∀ r ∈ res, WellSigned r) ∧ blocksEnum res = L := by
  intro res
  by_cases hp : p > 0
  · obtain ⟨h1, h2, _⟩ := h.flush hp a d last
    rw [prog_zero, List.append_nil] at h2
    rw [show res = _ from if_pos hp]
    exact ⟨h1, h2⟩
  · obtain ⟨h1, h2, _⟩ := h
    rw [Nat.eq_zero_of_not_pos hp, prog_zero, List.append_nil] at h2
    rw [show res = _ from if_neg hp]
    exact ⟨h1, h2⟩

end RunInv

/-- loop invariant of `AppendUnique` after `j` candidates: the blocks (those of `B0` first) and the
    pending run, which ends at the last candidate, hold the values of `B0` and then the candidates
    new to `B0` -/
def AUInv (B0 : Blocks) (s step : Int) (j : Nat) (σ : Blocks.AUState) : Prop :=
  B0 <+: σ.bl ∧
  RunInv σ.bl σ.subStart step σ.pending σ.last
    (blocksEnum B0 ++ (prog s step j).filter (fun v => !(blocksEnum B0).contains v)) ∧
  (0 < σ.pending → σ.last + step = s + step * (j : Int))

section
variable {step : Int} {bl : Blocks} {sub last : Int} {pending : Nat} {c : Int}

theorem auStep_new (hc : Blocks.contains bl c = false) :
    Blocks.auStep step ⟨bl, sub, last, pending⟩ c
      = ⟨bl, if pending = 0 then c else sub, c, pending + 1⟩ := by
  simp [Blocks.auStep, hc]

theorem auStep_old_idle (hc : Blocks.contains bl c = true) :
    Blocks.auStep step ⟨bl, sub, last, 0⟩ c = ⟨bl, sub, last, 0⟩ := by
  simp [Blocks.auStep, hc]

theorem auStep_old_flush (hc : Blocks.contains bl c = true) (hp : pending ≠ 0) :
    Blocks.auStep step ⟨bl, sub, last, pending⟩ c
      = ⟨bl ++ [mkRng sub last step], c + step, last, 0⟩ := by
  simp [Blocks.auStep, hc, hp]
end

theorem auInv_step (B0 : Blocks) (s step : Int) (hstep : step ≠ 0)
    (j : Nat) (σ : Blocks.AUState) (hinv : AUInv B0 s step j σ) :
    AUInv B0 s step (j + 1) (Blocks.auStep step σ (s + step * (j : Int))) := by
  obtain ⟨bl, sub, last, pending⟩ := σ
  obtain ⟨hpre, hrun, hlast⟩ := hinv
  dsimp only at hpre hrun hlast
  -- the candidate is new to the current blocks iff it is new to `B0`: it differs from all earlier ones
  have hcont : Blocks.contains bl (s + step * (j : Int)) = true ↔
      (blocksEnum B0).contains (s + step * (j : Int)) = true := by
    rw [List.contains_iff_mem, blocks_contains _ hrun.1]
    refine ⟨fun h => ?_, fun h => ?_⟩
    · refine (List.mem_append.mp (hrun.2.1 ▸ List.mem_append_left _ h)).elim id fun h => ?_
      obtain ⟨i, hi, heq⟩ := mem_prog.mp (List.mem_filter.mp h).1
      have := prog_inj hstep heq
      omega
    · obtain ⟨R, rfl⟩ := hpre
      exact blocksEnum_append B0 R ▸ List.mem_append_left _ h
  unfold AUInv
  rw [filter_not_prog_succ, Int.natCast_add, Int.mul_add, Int.natCast_one, Int.mul_one, ← Int.add_assoc,
    ← List.append_assoc]
  generalize s + step * (j : Int) = c at hcont hlast ⊢
  generalize blocksEnum B0 ++ (prog s step j).filter (fun v => !(blocksEnum B0).contains v) = L at hrun ⊢
  by_cases hc : Blocks.contains bl c = true
  · rw [if_pos (hcont.mp hc), List.append_nil]
    by_cases hp : pending = 0
    · subst hp
      rw [auStep_old_idle hc]
      exact ⟨hpre, hrun, fun h => absurd h (Nat.lt_irrefl 0)⟩
    · rw [auStep_old_flush hc hp]
      exact ⟨hpre.trans (List.prefix_append _ _), hrun.flush (Nat.pos_of_ne_zero hp) _ _ _,
        fun h => absurd h (Nat.lt_irrefl 0)⟩
  · rw [if_neg (fun h => hc (hcont.mpr h)), auStep_new (Bool.not_eq_true _ ▸ hc)]
    -- the candidate starts a run, or is the next term of the pending one
    by_cases hp : pending = 0
    · subst hp
      exact ⟨hpre, hrun.start c hstep, fun _ => rfl⟩
    · obtain rfl : last + step = c := hlast (Nat.pos_of_ne_zero hp)
      rw [if_neg hp]
      exact ⟨hpre, hrun.extend (Nat.pos_of_ne_zero hp), fun _ => rfl⟩

theorem au_loop (B0 : Blocks) (hB0 : ∀ r ∈ B0, WellSigned r) (s : Int) {step : Int} (hstep : step ≠ 0)
    (N : Nat) :
    let σ := (prog s step N).foldl (Blocks.auStep step) ⟨B0, s, s, 0⟩
    let res := if σ.pending > 0 then σ.bl ++ [mkRng σ.subStart σ.last step] else σ.bl
    (∀ r ∈ res, WellSigned r) ∧
    blocksEnum res = blocksEnum B0 ++ (prog s step N).filter (fun v => !(blocksEnum B0).contains v) := by
  intro σ
  obtain ⟨_, hrun, _⟩ : AUInv B0 s step N σ :=
    foldl_prog_inv (AUInv B0 s step) _ s step
      ⟨List.prefix_rfl, ⟨hB0, rfl, fun hp => absurd hp (Nat.lt_irrefl 0)⟩,
        fun hp => absurd hp (Nat.lt_irrefl 0)⟩
      (auInv_step B0 s step hstep) N
  exact hrun.result

theorem appendUnique_spec (bl : Blocks) (h : WF bl) (s e st : Int) :
    WF (Blocks.appendUnique bl s e st) ∧
    blocksEnum (Blocks.appendUnique bl s e st) = appendU (blocksEnum bl) s e st := by
  unfold Blocks.appendUnique appendU
  by_cases hst : st = 0
  · rw [if_pos hst, if_pos hst]; exact ⟨h, rfl⟩
  rw [if_neg hst, if_neg hst]
  obtain ⟨hnat, hws⟩ := RngAux.cDir_mul s e (m := st.natAbs) (by omega)
  dsimp only
  rw [RngAux.normStep_eq]
  generalize cDir s e * (st.natAbs : Int) = step at hnat hws
  have hstep : step ≠ 0 := by omega
  -- the candidates are the enumeration of the new range; `Blocks.cands` unfolds to this progression
  -- (`RngAux.K` is the number of its steps), so `rfl` proves the first equation
  have hcands : Blocks.cands s e step = prog s step (RngAux.K ⟨s, e, step⟩ + 1) := rfl
  have henum : enum s e st.natAbs = prog s step (RngAux.K ⟨s, e, step⟩ + 1) := by
    rw [← hnat]; exact RngAux.rngEnum_eq_prog _ hws
  rw [henum, hcands]
  generalize RngAux.K ⟨s, e, step⟩ + 1 = N at henum
  suffices hres : ∀ res : Blocks, (∀ r ∈ res, WellSigned r) →
      blocksEnum res = blocksEnum bl ++ (prog s step N).filter (fun v => !(blocksEnum bl).contains v) →
      WF res ∧
        blocksEnum res = blocksEnum bl ++ (prog s step N).filter (fun v => !(blocksEnum bl).contains v) by
    cases bl with
    | nil =>
      -- the first range is taken as it is
      rw [List.isEmpty_nil, if_pos rfl]
      apply hres
      · intro r hr
        rw [List.mem_singleton.mp hr, RngAux.mkRng_of_ne hstep]; exact hws
      · rw [blocksEnum_cons, blocksEnum_nil, List.append_nil, List.nil_append, RngAux.mkRng_of_ne hstep,
          rngEnum, hnat, henum]
        exact (List.filter_eq_self.mpr fun _ _ => rfl).symm
    | cons b bs =>
      obtain ⟨h1, h2⟩ := au_loop (b :: bs) h.1 s hstep N
      rw [List.isEmpty_cons, if_neg Bool.false_ne_true]
      exact hres _ h1 h2
  intro res hws hen
  refine ⟨(wf_iff_nodup hws).mpr ?_, hen⟩
  rw [hen, List.nodup_append]
  refine ⟨blocks_nodup bl h, (nodup_prog s hstep N).sublist List.filter_sublist, ?_⟩
  intro a ha b hb hab
  have := (List.mem_filter.mp hb).2
  rw [← hab] at this
  simp [ha] at this

end Gfs.Proofs
