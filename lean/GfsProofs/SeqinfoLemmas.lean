/-
  GfsProofs.SeqinfoLemmas — seqinfo's result map: one entry per distinct pattern, independent
  of the order in which the concurrent parses finish (C18); and the two shapes of result the
  option pipeline `Seqinfo.parse` returns.
-/
import GfsModel.Seqinfo

namespace Gfs.Proofs
open Gfs Gfs.Seqinfo

theorem keys_insertResult (m : List Result) (r : Result) :
    (insertResult m r).map (·.orig) =
      if r.orig ∈ m.map (·.orig) then m.map (·.orig) else m.map (·.orig) ++ [r.orig] := by
  have hany : m.any (·.orig = r.orig) = true ↔ r.orig ∈ m.map (·.orig) := by
    simp only [List.any_eq_true, decide_eq_true_eq, List.mem_map]
  unfold insertResult
  by_cases h : r.orig ∈ m.map (·.orig)
  · rw [if_pos h, if_pos (hany.2 h), List.map_map]
    apply List.map_congr_left
    intro x _
    show (if x.orig = r.orig then r else x).orig = x.orig
    split
    · rename_i hx
      exact hx.symm
    · rfl
  · rw [if_neg h, if_neg (mt hany.1 h), List.map_append]
    rfl

theorem mem_insertResult {m : List Result} {r y : Result} :
    y ∈ insertResult m r ↔ y = r ∨ (y ∈ m ∧ y.orig ≠ r.orig) := by
  unfold insertResult
  split
  · rename_i hany
    obtain ⟨x, hx, hxe⟩ := List.any_eq_true.1 hany
    have hxe : x.orig = r.orig := of_decide_eq_true hxe
    rw [List.mem_map]
    constructor
    · rintro ⟨z, hz, rfl⟩
      by_cases hz' : z.orig = r.orig
      · exact Or.inl (if_pos hz')
      · exact Or.inr ⟨by rwa [if_neg hz'], by rwa [if_neg hz']⟩
    · rintro (rfl | ⟨hy, hne⟩)
      · exact ⟨x, hx, if_pos hxe⟩
      · exact ⟨y, hy, if_neg hne⟩
  · rename_i hany
    have hne : ∀ z ∈ m, z.orig ≠ r.orig := fun z hz he =>
      hany (List.any_eq_true.2 ⟨z, hz, decide_eq_true he⟩)
    rw [List.mem_append, List.mem_singleton]
    exact ⟨fun h => h.elim (fun hy => Or.inr ⟨hy, hne y hy⟩) Or.inl,
      fun h => h.elim Or.inr fun hy => Or.inl hy.1⟩

theorem foldl_keys (rs : List Result) : ∀ (acc : List Result), (acc.map (·.orig)).Nodup →
    ((rs.foldl insertResult acc).map (·.orig)).Nodup ∧
    ∀ p, p ∈ (rs.foldl insertResult acc).map (·.orig) ↔
      p ∈ acc.map (·.orig) ∨ p ∈ rs.map (·.orig) := by
  induction rs with
  | nil => exact fun acc h => ⟨h, fun p => (or_iff_left List.not_mem_nil).symm⟩
  | cons a t ih =>
    intro acc h
    have hk := keys_insertResult acc a
    obtain ⟨h1, h2⟩ := ih (insertResult acc a) (by
      rw [hk]
      split
      · exact h
      · rename_i hn
        exact List.nodup_append.2 ⟨h, List.pairwise_singleton _ _, fun x hx y hy =>
          List.mem_singleton.1 hy ▸ fun he => hn (he ▸ hx)⟩)
    refine ⟨h1, fun p => ?_⟩
    rw [List.foldl_cons, h2, hk, List.map_cons, List.mem_cons, ← or_assoc]
    split
    · rename_i hin
      exact or_congr_left ⟨Or.inl, fun h => h.elim id fun he => he ▸ hin⟩
    · rw [List.mem_append, List.mem_singleton]

theorem collect_subset (rs : List Result) : ∀ y ∈ collect rs, y ∈ rs :=
  List.foldlRecOn rs insertResult (motive := fun acc => ∀ y ∈ acc, y ∈ rs)
    (fun _ h => absurd h List.not_mem_nil)
    fun _ ha _ hm y hy => (mem_insertResult.1 hy).elim (· ▸ hm) (ha y ·.1)

theorem parse_some {pat : Bytes} {o : Opts} {r : Result} (h : Seqinfo.parse pat o = some r) :
    r = errResult pat ∨ (r.orig = pat ∧ r.error = false) := by
  -- walk to every `some` leaf of `parse`: `errResult pat`, or the record built last
  unfold Seqinfo.parse at h
  extract_lets st at h
  split at h
  · cases h; exact .inl rfl                -- the pattern does not parse
  · extract_lets fs1 at h
    clear_value fs1
    split at h
    · cases h                              -- --format with a template outside the model
    · cases h; exact .inl rfl              -- the reformatted string does not parse
    · extract_lets _ _ _ _ rq at h
      clear_value rq
      split at h
      · cases h; exact .inl rfl            -- --range rejected by SetFrameRange
      · extract_lets _ _ ai at h
        clear_value ai
        split at h
        · cases h; exact .inl rfl          -- --index out of range, or its path does not parse
        · extract_lets fq at h
          clear_value fq
          split at h
          · cases h; exact .inl rfl        -- the path of --frame does not parse
          · cases h; exact .inr ⟨rfl, rfl⟩

end Gfs.Proofs
