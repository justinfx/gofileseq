/-
  GfsProofs.FindComplete — completeness of the pattern lookup (C07): the template scan folds
  EVERY visible name of the form basename + frame number + extension (`candToks`), in order, into
  the one bucket of the pattern's key, and a bucket of two or more frames of one width becomes the
  one sequence that is returned.
-/
import GfsProofs.ListScan
import GfsProofs.DiskLemmas

namespace Gfs.Proofs
open Gfs Gfs.Spec

theorem foldl_addFrame_key (st : PadStyle) (d b e : Bytes) : ∀ (toks : List Bytes) (g : SeqInfo),
    Order.bkey g = (d, b, e) →
    ∃ g', toks.foldl (fun bs tk => addFrame st d b e tk bs) [g] = [g'] ∧
      Order.bkey g' = (d, b, e) ∧ g'.frames = g.frames ++ toks.map Order.mkFI
  | [], g, hk => ⟨g, rfl, hk, (List.append_nil _).symm⟩
  | tk :: toks, g, hk => by
    have hstep : addFrame st d b e tk [g] = [ListAux.addTok st tk g] := by
      rw [addFrame, if_pos (by cases hk; exact ⟨rfl, rfl, rfl⟩)]
      rfl
    obtain ⟨g', h, hk', hf⟩ := foldl_addFrame_key st d b e toks (ListAux.addTok st tk g)
      ((ListAux.addTok_key st tk g).trans hk)
    exact ⟨g', by rw [List.foldl_cons, hstep, h], hk',
      by rw [hf, ListAux.addTok_frames, List.append_assoc]; rfl⟩

theorem cand_bucket (st : PadStyle) (d b e : Bytes) (toks : List Bytes) (hne : toks ≠ []) :
    ∃ g, toks.foldl (fun bs tk => addFrame st d b e tk bs) [] = [g] ∧
      g.dir = d ∧ g.base = b ∧ g.ext = e ∧ g.frames = toks.map Order.mkFI := by
  cases toks with
  | nil => exact absurd rfl hne
  | cons tk toks =>
    obtain ⟨g, h, hk, hf⟩ :=
      foldl_addFrame_key st d b e toks (ListAux.newBucket st (d, b, e) tk) rfl
    cases hk
    exact ⟨g, h, rfl, rfl, rfl, hf⟩

end Gfs.Proofs

-- `FindComplete`: the candidates of a template (`candTok`, `candToks`, in which C07 states its
-- results) and the lookup as a fold over them; what is above mentions no template
namespace Gfs.Proofs.FindComplete
open Gfs Gfs.Spec Gfs.Proofs

/-- the frame token of a name the template glob accepts (`none`: hidden, or not of the form
    basename + frame number + extension) -/
def candTok (o : ListOpts) (t : Seq) (name : Bytes) : Option Bytes :=
  if !o.hidden ∧ isPrefixOf ['.'] name then none
  else if isPrefixOf t.base name ∧ isSuffixOf t.ext name ∧ t.base.length + t.ext.length ≤ name.length then
    let mid := (name.drop t.base.length).take (name.length - t.base.length - t.ext.length)
    if (frameAt mid).map (·.2) = some [] ∧ (atoi mid).isSome then some mid else none
  else none

def candToks (o : ListOpts) (t : Seq) (items : List FileItem) : List Bytes :=
  items.filterMap fun it => candTok o t it.name

theorem scanItems_tmpl_cons (o : ListOpts) (t : Seq) (it : FileItem) (rest : List FileItem)
    (bs : List SeqInfo) (files : List Seq) :
    scanItems o (some t) (it :: rest) bs files =
      scanItems o (some t) rest
        (match candTok o t it.name with
          | some tk => addFrame o.style t.dir t.base t.ext tk bs
          | none => bs) files := by
  rw [scanItems, candTok]
  by_cases hhid : (!o.hidden ∧ isPrefixOf ['.'] it.name)
  · rw [if_pos hhid, if_pos hhid]
  · rw [if_neg hhid, if_neg hhid]
    by_cases hglob : (isPrefixOf t.base it.name ∧ isSuffixOf t.ext it.name ∧
        t.base.length + t.ext.length ≤ it.name.length)
    · simp only [if_pos hglob]
      split <;> rfl
    · simp only [if_neg hglob]

theorem scanItems_tmpl (o : ListOpts) (t : Seq) (files : List Seq) :
    ∀ (items : List FileItem) (bs : List SeqInfo),
      scanItems o (some t) items bs files =
        .ok ((candToks o t items).foldl (fun bs tk => addFrame o.style t.dir t.base t.ext tk bs) bs, files)
  | [], bs => rfl
  | it :: rest, bs => by
    rw [scanItems_tmpl_cons, scanItems_tmpl o t files rest]
    unfold candToks
    rw [List.filterMap_cons]
    cases candTok o t it.name <;> rfl

theorem find_eq (lookup : Bytes → DirSpec) (pat : Bytes) (st : PadStyle) (strict hidden : Bool)
    (fs : Seq) (entries : List Entry)
    (hp : Seq.parse st pat = .ok fs) (hl : lookup (openDir fs.dir) = some entries)
    (hnd : ∀ e ∈ entries, e.kind ≠ .dangling) :
    findSequenceOnDisk lookup pat st strict hidden =
      .ok (((((((candToks ⟨false, hidden, st⟩ fs
          ((entries.filter fun e => e.kind = .file ∨ e.kind = .linkFile).map
            fun e => (⟨dirPrefix (openDir fs.dir), e.name⟩ : FileItem))).foldl
          (fun bs tk => addFrame st fs.dir fs.base fs.ext tk bs) []).map (bucketSeqs st)).flatten.filter
          fun s => s.base = fs.base ∧ s.ext = fs.ext).map fun s => s.setPaddingStyle st).filter
          fun s => !(strict ∧ !fs.pad.isEmpty ∧ s.zfill ≠ fs.zfill)).head?) := by
  unfold findSequenceOnDisk
  simp only [hp]
  rw [hl, scanDir_ok entries _ _ _ hnd, findInItems, scanItems_tmpl]
  simp only [bind, Except.bind, pure, Except.pure, Bool.false_eq_true, if_false, List.append_nil]

theorem find_uniform (lookup : Bytes → DirSpec) (pat : Bytes) (st : PadStyle) (strict hidden : Bool)
    (fs : Seq) (entries : List Entry) (w : Nat)
    (hp : Seq.parse st pat = .ok fs) (hl : lookup (openDir fs.dir) = some entries)
    (hnd : ∀ e ∈ entries, e.kind ≠ .dangling)
    (toks : List Bytes)
    (htoks : toks = candToks ⟨false, hidden, st⟩ fs
        ((entries.filter fun e => e.kind = .file ∨ e.kind = .linkFile).map fun e => ⟨dirPrefix (openDir fs.dir), e.name⟩))
    (h2 : 2 ≤ toks.length) (hw : ∀ tk ∈ toks, tk.length = w) :
    findSequenceOnDisk lookup pat st strict hidden =
      .ok ([(rebuild st fs.dir fs.base (framesToFrameRange (toks.map atoiOr0) true 0)
              (padChars st w) fs.ext).setPaddingStyle st].filter
            fun s => !(strict ∧ !fs.pad.isEmpty ∧ s.zfill ≠ fs.zfill)).head? := by
  obtain ⟨g, hg, hd, hb, he, hf⟩ := cand_bucket st fs.dir fs.base fs.ext toks
    (by intro h0; rw [h0] at h2; cases h2)
  have hbs := Order.bucketSeqs_uniform st g w (by rw [hf, List.length_map]; exact h2)
    (by rw [hf]; intro f hfm; obtain ⟨tk, htk, rfl⟩ := List.mem_map.1 hfm; exact hw tk htk)
  have hnum : g.frames.map (·.num) = toks.map atoiOr0 := by rw [hf, List.map_map]; rfl
  rw [find_eq lookup pat st strict hidden fs entries hp hl hnd, ← htoks, hg]
  simp only [List.map_cons, List.map_nil, List.flatten_cons, List.flatten_nil, List.append_nil, hbs,
    hd, hb, he, hnum]
  rw [List.filter_cons_of_pos (by rw [ListAux.rebuild_eq]; simp)]
  rfl

end Gfs.Proofs.FindComplete
