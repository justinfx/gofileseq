/-
  GfsProofs.ListTok — frame tokens of file names: a tame token is the zero-filled text of its own
  value at its own width, and its plain text when no wider (`tok_zfill`); what `rebuild` builds
  (`rebuild_eq`) and the paths of the result.
-/
import GfsModel.ListSeqs
import GfsProofs.IndexLemmas

namespace Gfs.Proofs
open Gfs Gfs.Spec
-- `ListAux`: what stands behind the theorems on the listing and the lookup (C05, C07 and, through
-- CppScan, C19) — frame tokens (this file), one bucket (ListGroup), the scan (ListScan).
namespace ListAux

/-- A tame frame token: a numeral, not a negative zero, at most 17 bytes. With 17 bytes the value
    is below 10^17 in absolute value, so it and the difference of any two (below 2·10^17) fit an
    int64, which is what the range compressor needs of the numbers of a bucket (18 would do too). -/
def Tok (t : Bytes) : Prop := (∃ n, NumText n t) ∧ ¬ NegZero t ∧ t.length ≤ 17

/-- the token is a numeral of the number read from it, and that number has at most 17 digits -/
theorem tok_numText {t : Bytes} (h : Tok t) :
    NumText (atoiOr0 t) t ∧ (atoiOr0 t).natAbs < 100000000000000000 := by
  obtain ⟨⟨n, hnt⟩, -, hlen⟩ := h
  have hb : n.natAbs < 100000000000000000 :=
    Nat.lt_of_lt_of_le (numText_natAbs_lt hnt).2
      (Nat.pow_le_pow_right (by decide) hlen : 10 ^ t.length ≤ 10 ^ 17)
  have hv : atoiOr0 t = n := by
    unfold atoiOr0
    rw [atoi_numText n t hnt, if_pos (by unfold minInt64 maxInt64; omega)]
    rfl
  exact hv ▸ ⟨hnt, hb⟩

theorem tok_pos {t : Bytes} (h : Tok t) : 1 ≤ t.length :=
  (numText_natAbs_lt (tok_numText h).1).1

theorem tok_zfill_self {t : Bytes} (h : Tok t) : zfillInt (atoiOr0 t) t.length = t :=
  numText_zfill (tok_numText h).1 h.2.1

/-- Zero-filling gives a token back from the width `w` of a group that the regrouping walk lets it
    join: it has that width, or it is the plain text of its value (`frameMinSize` 1) and at least
    as wide. -/
theorem tok_zfill {t : Bytes} (h : Tok t) {w : Nat} (hw : w ≤ t.length)
    (hj : ¬ (t.length ≠ w ∧ frameMinSize t > w)) : zfillInt (atoiOr0 t) w = t := by
  by_cases hc : t.length = (itoa (atoiOr0 t)).length
  · rw [zfillInt_short _ _ (by omega)]
    exact (numText_eq_itoa (tok_numText h).1 h.2.1 (Nat.le_of_eq hc)).symm
  · -- redundant zeros: `frameMinSize t` is `t.length`, so the token only joins a group of its
    -- own width
    rw [frameMinSize, if_neg hc] at hj
    rw [show w = t.length by omega]
    exact tok_zfill_self h

theorem tok_fits {t u : Bytes} (h : Tok t) (hu : Tok u) :
    Fits (atoiOr0 t) ∧ Fits (atoiOr0 t - atoiOr0 u) := by
  have := (tok_numText h).2
  have := (tok_numText hu).2
  unfold Fits minInt64 maxInt64
  omega

theorem parse_tok {t : Bytes} (h : Tok t) :
    ∃ fs, FrameSet.parse t = .ok fs ∧ fs.frames = [atoiOr0 t] :=
  parse_numeral t _ (tok_numText h).1 (tok_fits h h).1

theorem parse_itoa (v : Int) (hf : Fits v) :
    ∃ fs, FrameSet.parse (itoa v) = .ok fs ∧ fs.frames = [v] :=
  parse_numeral _ v (itoa_numText v) hf

/-- `rebuild`, field by field. One formula serves for the frame set because a range text that does
    not parse — the empty one does not — leaves the sequence without one. -/
theorem rebuild_eq (st : PadStyle) (dir base frange pad ext : Bytes) :
    rebuild st dir base frange pad ext =
      ⟨base, dir, ext, if pad.isEmpty ∧ !frange.isEmpty then padChars st frange.length else pad,
        padSize st (if pad.isEmpty ∧ !frange.isEmpty then padChars st frange.length else pad),
        (FrameSet.parse frange).toOption, st⟩ := by
  unfold rebuild Seq.setFrameRange Seq.setPadding
  cases frange with
  | nil => rw [parse_nil]; rfl
  | cons c r => cases FrameSet.parse (c :: r) <;> rfl

/-- the result has the (directory, basename, extension) it was built from: the key of its bucket -/
theorem rebuild_key (st : PadStyle) (dir base frange pad ext : Bytes) :
    (rebuild st dir base frange pad ext).dir = dir ∧ (rebuild st dir base frange pad ext).base = base ∧
    (rebuild st dir base frange pad ext).ext = ext := by
  rw [rebuild_eq]
  exact ⟨rfl, rfl, rfl⟩

theorem rebuild_none (st : PadStyle) (dir base ext : Bytes) :
    (rebuild st dir base [] [] ext).paths = [dir ++ base ++ ext] ∧
    (rebuild st dir base [] [] ext).frameSet = none := by
  rw [rebuild_eq, parse_nil]
  refine ⟨?_, rfl⟩
  rw [paths_none _ rfl]
  simp [Seq.str, Seq.frameRange, Except.toOption]

/-- a sequence built from a range text that parses, with pad characters of width `w`: those given
    or, when none are given, those `rebuild` makes for the length `w` of the range text -/
theorem rebuild_some (st : PadStyle) (dir base ext : Bytes) {frange pad : Bytes} {fs : FrameSet}
    {w : Nat} (hw : 1 ≤ w) (hpad : pad = padChars st w ∨ (pad = [] ∧ frange.length = w))
    (hparse : FrameSet.parse frange = .ok fs) :
    (rebuild st dir base frange pad ext).frameSet = some fs ∧
    (rebuild st dir base frange pad ext).paths =
      fs.frames.map (fun n => dir ++ base ++ zfillInt n w ++ ext) := by
  have hp : (if pad.isEmpty ∧ !frange.isEmpty then padChars st frange.length else pad) =
      padChars st w := by
    rcases hpad with rfl | ⟨rfl, rfl⟩
    · rw [if_neg (by rw [isEmpty_padChars]; exact fun h => Bool.false_ne_true h.1)]
    · rw [if_pos ⟨rfl, by cases frange with | nil => cases hw | cons c r => rfl⟩]
  rw [rebuild_eq, hp, hparse, padSize_padChars st _ (by omega)]
  refine ⟨rfl, ?_⟩
  rw [paths_eq _ fs rfl (parse_ok_wf hparse)]
  apply List.map_congr_left
  intro n _
  simp only [framePath, zfillInt_eq_spec]

end ListAux

theorem setPaddingStyle_mk (b d e p : Bytes) (z : Int) (fs : Option FrameSet) (st' st : PadStyle) :
    Seq.setPaddingStyle ⟨b, d, e, p, z, fs, st'⟩ st =
      ⟨b, d, e, padChars st z, padSize st (padChars st z), fs, st⟩ := rfl

/-- a sequence built with the pad characters of a digit width, then switched to style `st`: of
    the style it was built in only the pad width is left -/
theorem rebuild_setPaddingStyle (st' st : PadStyle) (d b fr e : Bytes) (w : Nat) :
    (rebuild st' d b fr (padChars st' w) e).setPaddingStyle st =
      ⟨b, d, e, padChars st (padSize st' (padChars st' w)),
        padSize st (padChars st (padSize st' (padChars st' w))), (FrameSet.parse fr).toOption, st⟩ := by
  rw [ListAux.rebuild_eq, setPaddingStyle_mk]
  simp only [isEmpty_padChars, Bool.false_eq_true, false_and, if_false]

end Gfs.Proofs
