/-
  GfsProofs.HandlesAux — what GfsProofs.HandlesLemmas needs and that is not about the handle table:
  sums and counts over the first N threads and how they change when a function is modified at one
  or two indices; and, since a step of the table replaces the program counter of one thread
  (`upd pc k v`), when a statement about the threads whose counter lies in some section `P` of the
  program survives such a replacement. `upd` is unfolded in `upd_same` and `upd_ne` only.
-/
import GfsModel.Handles

namespace Gfs.Proofs
open Gfs.Handles

theorem upd_same {α : Type} {f : Nat → α} {k : Nat} {v : α} : upd f k v k = v := if_pos rfl

theorem upd_ne {α : Type} {f : Nat → α} {k x : Nat} {v : α} (h : x ≠ k) : upd f k v x = f x := if_neg h

/-- sum of `f` over the first `N` naturals, in the shape used by `sumOwned` -/
def sumF (f : Nat → Nat) (N : Nat) : Nat := (List.range N).foldl (fun a t => a + f t) 0

theorem sumOwned_eq (s : State) (N : Nat) (id : Id) :
    sumOwned s N id = sumF (fun t => s.owned t id) N := rfl

theorem sumF_succ (f : Nat → Nat) (n : Nat) : sumF f (n + 1) = sumF f n + f n := by
  simp [sumF, List.range_succ, List.foldl_append]

theorem sumF_congr {f g : Nat → Nat} {N : Nat} (h : ∀ t, t < N → g t = f t) :
    sumF g N = sumF f N := by
  induction N with
  | zero => rfl
  | succ n ih =>
    rw [sumF_succ, sumF_succ, ih fun t ht => h t (Nat.lt_succ_of_lt ht), h n n.lt_succ_self]

theorem sumF_eq_zero {f : Nat → Nat} {N : Nat} (h : ∀ t, t < N → f t = 0) : sumF f N = 0 := by
  induction N with
  | zero => rfl
  | succ n ih => rw [sumF_succ, ih fun t ht => h t (Nat.lt_succ_of_lt ht), h n n.lt_succ_self]

/-- stated with sums on both sides, since the change at `t` may go down -/
theorem sumF_upd {f g : Nat → Nat} {N t : Nat} (ht : t < N) (h : ∀ x, x ≠ t → g x = f x) :
    sumF g N + f t = sumF f N + g t := by
  induction N with
  | zero => exact nomatch ht
  | succ n ih =>
    rw [sumF_succ, sumF_succ]
    by_cases htn : t = n
    · subst htn
      rw [sumF_congr fun x hx => h x (Nat.ne_of_lt hx), Nat.add_right_comm]
    · rw [h n (Ne.symm htn), Nat.add_right_comm, ih (Nat.lt_of_le_of_ne (Nat.le_of_lt_succ ht) htn),
        Nat.add_right_comm]

theorem sumF_ge {f : Nat → Nat} {N t : Nat} (ht : t < N) : f t ≤ sumF f N := by
  -- what remains when `t` is left out
  have := sumF_upd (g := upd f t 0) ht fun x hx => upd_ne hx
  rw [upd_same] at this
  exact Nat.le.intro ((Nat.add_comm ..).trans this)

theorem sumF_inc {f g : Nat → Nat} {N t : Nat} (ht : t < N) (h : ∀ x, x ≠ t → g x = f x)
    (hgt : g t = f t + 1) : sumF g N = sumF f N + 1 := by
  have := sumF_upd ht h
  rw [hgt, Nat.add_comm (f t), ← Nat.add_assoc] at this
  exact Nat.add_right_cancel this

/-- the shape of the model's `give` from `t` to `u` (which may be `t` itself), on the column of the
    handle handed over: the sum stays -/
theorem sumF_give {o : Nat → Nat} {N t u : Nat} (ht : t < N) (hu : u < N) (h1 : 1 ≤ o t) :
    sumF (fun x => if x = t then o t - 1 + (if x = u then 1 else 0)
      else if x = u then o u + 1 else o x) N = sumF o N := by
  -- lower `o` by one at `t`: one more at `u` gives the new column, one more at `t` gives `o` back
  refine (sumF_inc (f := upd o t (o t - 1)) hu (fun x hx => ?_) ?_).trans
    (sumF_inc ht (fun x hx => (upd_ne hx).symm) ?_).symm
  · rw [if_neg hx, if_neg hx]; rfl
  · rw [if_pos rfl, if_pos rfl]
    by_cases e : u = t
    · rw [if_pos e, e, upd_same]
    · rw [if_neg e, upd_ne e]
  · rw [upd_same, Nat.sub_add_cancel h1]

/-- The shape of the model's steps that set the count of a handle (to `w`) and the ledger entry of `t`
    on it (to `v`) together; `o` is the handle's column of the ledger. -/
theorem sumF_set {o : Nat → Nat} {N t v w : Nat} (ht : t < N) (hvw : w + o t = sumF o N + v) :
    w = sumF (fun x => if x = t then v else o x) N := by
  have := sumF_upd (f := o) (g := fun x => if x = t then v else o x) ht fun x hx => if_neg hx
  rw [if_pos rfl] at this
  exact Nat.add_right_cancel (hvw.trans this.symm)

def cntF (p : Nat → Bool) (N : Nat) : Nat := ((List.range N).filter p).length

theorem cntF_eq_sumF (p : Nat → Bool) (N : Nat) :
    cntF p N = sumF (fun t => if p t then 1 else 0) N := by
  induction N with
  | zero => rfl
  | succ n ih =>
    rw [sumF_succ, ← ih]
    simp only [cntF, List.range_succ, List.filter_append, List.length_append]
    cases hp : p n <;> simp [hp]

theorem cntF_upd {p q : Nat → Bool} {N t : Nat} (ht : t < N) (h : ∀ x, x ≠ t → q x = p x) :
    cntF q N + (if p t then 1 else 0) = cntF p N + (if q t then 1 else 0) := by
  rw [cntF_eq_sumF, cntF_eq_sumF]
  exact sumF_upd (f := fun t => if p t then 1 else 0) (g := fun t => if q t then 1 else 0) ht
    (fun x hx => by simp [h x hx])

theorem cntF_pos {p : Nat → Bool} {N t : Nat} (ht : t < N) (hp : p t = true) : 1 ≤ cntF p N := by
  have := sumF_ge (f := fun t => if p t then 1 else 0) ht
  rwa [hp, if_pos rfl, ← cntF_eq_sumF] at this

section upd
variable {α : Type} {f : Nat → α} {k : Nat} {v : α} {P : α → Prop}

theorem forall_upd (P : α → Prop) {Q : Nat → Prop} (hold : ∀ x, x ≠ k → P (f x) → Q x)
    (hnew : P v → Q k) : ∀ x, P (upd f k v x) → Q x := by
  intro x hx
  by_cases h : x = k
  · subst h; rw [upd_same] at hx; exact hnew hx
  · rw [upd_ne h] at hx; exact hold x h hx

theorem uniq_upd (hu : ∀ x y, P (f x) → P (f y) → x = y) (hnew : P v → ∀ x, P (f x) → x = k) :
    ∀ x y, P (upd f k v x) → P (upd f k v y) → x = y := by
  intro x y hx hy
  by_cases h1 : x = k <;> by_cases h2 : y = k
  · rw [h1, h2]
  · rw [h1, upd_same] at hx; rw [upd_ne h2] at hy; exact absurd (hnew hx y hy) h2
  · rw [h2, upd_same] at hy; rw [upd_ne h1] at hx; exact absurd (hnew hy x hx) h1
  · rw [upd_ne h1] at hx; rw [upd_ne h2] at hy; exact hu x y hx hy

theorem exists_upd {N : Nat} (hex : ∃ w, w < N ∧ P (f w)) (hk : P (f k) → P v) :
    ∃ w, w < N ∧ P (upd f k v w) := by
  obtain ⟨w, hw, hp⟩ := hex
  refine ⟨w, hw, ?_⟩
  by_cases h : w = k
  · subst h; rw [upd_same]; exact hk hp
  · rw [upd_ne h]; exact hp

theorem cntF_move {sec : α → Bool} {N r r' : Nat} (hk : k < N) (hr : r = cntF (fun x => sec (f x)) N)
    (h : r' + (if sec (f k) then 1 else 0) = r + (if sec v then 1 else 0)) :
    r' = cntF (fun x => sec (upd f k v x)) N := by
  have key := cntF_upd (p := fun x => sec (f x)) (q := fun x => sec (upd f k v x)) hk
    (fun x hx => by rw [upd_ne hx])
  rw [upd_same, ← hr] at key
  exact Nat.add_right_cancel (h.trans key.symm)

end upd

/-- One exclusive section of the thread program. `P` says which program counters lie in it (holding
    the write lock; having taken a count to zero and not yet removed the handle; inserting a new
    handle). `Q` is what a thread inside may rely on, `E` the condition under which the section cannot
    be empty; at most one thread is inside. A step moves one thread, which stays on its side of the
    border (`stay`), enters the empty section (`enter`) or was the occupant and leaves (`leave`). -/
structure Sect {α : Type} (N : Nat) (P : α → Prop) (Q E : Prop) (pc : Nat → α) : Prop where
  inside : ∀ t, P (pc t) → Q
  uniq : ∀ t u, P (pc t) → P (pc u) → t = u
  ex : E → ∃ t, t < N ∧ P (pc t)

namespace Sect
variable {α : Type} {N : Nat} {P : α → Prop} {Q Q' E E' : Prop} {pc : Nat → α} {t : Nat} {p' : α}

/-- where `Q` fails nobody is inside: the hypothesis `hnone` of `enter` -/
theorem nobody (h : Sect N P Q E pc) (hq : ¬ Q) : ∀ x, ¬ P (pc x) := fun x hx => hq (h.inside x hx)

/-- The move in which no thread crosses the border but the table changes under an empty section (`¬ Q`):
    `Q`, `E` give way to those of the new table, and only `¬ E'` is owed. Follows `stay` in such a step. -/
theorem empty (h : Sect N P Q E pc) (hq : ¬ Q) (he : ¬ E') : Sect N P Q' E' pc :=
  ⟨fun t ht => absurd ht (h.nobody hq t), h.uniq, fun e => absurd e he⟩

theorem stay (h : Sect N P Q E pc) (hp : P p' ↔ P (pc t)) : Sect N P Q E (upd pc t p') where
  inside := forall_upd P (fun x _ => h.inside x) fun hp' => h.inside t (hp.mp hp')
  uniq := uniq_upd h.uniq fun hp' x hx => h.uniq x t hx (hp.mp hp')
  ex he := exists_upd (h.ex he) hp.mpr

theorem enter (h : Sect N P Q E pc) (ht : t < N) (hnone : ∀ x, ¬ P (pc x)) (hp : P p') (hq' : Q') :
    Sect N P Q' E' (upd pc t p') where
  inside _ _ := hq'
  uniq := uniq_upd h.uniq fun _ x hx => absurd hx (hnone x)
  ex _ := ⟨t, ht, by rw [upd_same]; exact hp⟩

theorem leave (h : Sect N P Q E pc) (hin : P (pc t)) (hout : ¬ P p') (he : ¬ E') :
    Sect N P Q' E' (upd pc t p') where
  inside := forall_upd P (fun x hx hp => absurd (h.uniq x t hp hin) hx) fun hp => absurd hp hout
  uniq := uniq_upd h.uniq fun hp => absurd hp hout
  ex he' := absurd he' he

end Sect

end Gfs.Proofs
