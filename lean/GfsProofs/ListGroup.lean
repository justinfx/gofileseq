/-
  GfsProofs.ListGroup — one bucket of the listing. The stable sort by width and the regrouping walk
  split the bucket's frame tokens into groups (width, numbers) such that zero-filling every number
  of a group to the group's width gives the tokens back (`regroup_spec`, DESIGN.md A.4); hence the
  sequences of a bucket (`bucketSeqs_one`, `bucketSeqs_groups`) are numbered, carry the bucket's
  key, and expand to exactly the bucket's files (`bucket_numbered`, `bucketSeqs_key`, `bucket_cover`).
  On a bucket whose tokens all have one width the sort and the walk do nothing: one group, one
  sequence (`Order.bucketSeqs_uniform`).
-/
import GfsProofs.ListTok
import GfsProofs.CompressLemmas

namespace Gfs.Proofs
open Gfs Gfs.Spec
namespace ListAux

def WSorted (l : List FrameInfo) : Prop :=
  l.Pairwise (fun a b => a.frame.length ≤ b.frame.length)

theorem insertByWidth_perm (x : FrameInfo) (l : List FrameInfo) :
    (insertByWidth x l).Perm (x :: l) := by
  induction l with
  | nil => exact List.Perm.refl _
  | cons y ys ih =>
    unfold insertByWidth
    by_cases h : x.frame.length < y.frame.length
    · simp only [h, if_true]; exact List.Perm.refl _
    · simp only [h, if_false]
      exact (ih.cons y).trans (List.Perm.swap x y ys)

theorem insertByWidth_sorted (x : FrameInfo) (l : List FrameInfo) (h : WSorted l) :
    WSorted (insertByWidth x l) := by
  induction l with
  | nil => simp [insertByWidth, WSorted]
  | cons y ys ih =>
    have hp := List.pairwise_cons.mp h
    unfold insertByWidth
    by_cases h1 : x.frame.length < y.frame.length
    · simp only [h1, if_true]
      refine List.pairwise_cons.mpr ⟨?_, h⟩
      intro v hv
      rcases List.mem_cons.mp hv with rfl | hv
      · exact Nat.le_of_lt h1
      · exact Nat.le_trans (Nat.le_of_lt h1) (hp.1 v hv)
    · simp only [h1, if_false]
      refine List.pairwise_cons.mpr ⟨?_, ih hp.2⟩
      intro v hv
      rcases List.mem_cons.mp ((insertByWidth_perm x ys).mem_iff.mp hv) with rfl | hv
      · exact Nat.le_of_not_lt h1
      · exact hp.1 v hv

theorem foldl_insert_perm (l acc : List FrameInfo) :
    (l.foldl (fun acc x => insertByWidth x acc) acc).Perm (l ++ acc) := by
  induction l generalizing acc with
  | nil => exact List.Perm.refl _
  | cons x xs ih =>
    rw [List.foldl_cons]
    refine (ih _).trans ?_
    refine (List.Perm.append_left xs (insertByWidth_perm x acc)).trans ?_
    exact List.perm_middle

theorem foldl_insert_sorted (l acc : List FrameInfo) (h : WSorted acc) :
    WSorted (l.foldl (fun acc x => insertByWidth x acc) acc) := by
  induction l generalizing acc with
  | nil => exact h
  | cons x xs ih =>
    rw [List.foldl_cons]
    exact ih _ (insertByWidth_sorted x acc h)

theorem sortByWidth_perm (l : List FrameInfo) : (sortByWidth l).Perm l := by
  have := foldl_insert_perm l []
  simpa [sortByWidth] using this

theorem sortByWidth_sorted (l : List FrameInfo) : WSorted (sortByWidth l) :=
  foldl_insert_sorted l [] List.Pairwise.nil

/-- an element at least as wide as every one of the list goes to its end: the sort is stable -/
theorem insertByWidth_last (x : FrameInfo) (l : List FrameInfo)
    (h : ∀ y ∈ l, y.frame.length ≤ x.frame.length) : insertByWidth x l = l ++ [x] := by
  induction l with
  | nil => rfl
  | cons y ys ih =>
    rw [insertByWidth, if_neg (Nat.not_lt.2 (h y List.mem_cons_self)),
      ih fun z hz => h z (List.mem_cons_of_mem _ hz)]
    rfl

theorem foldl_insert_of_sorted : ∀ (l acc : List FrameInfo), WSorted (acc ++ l) →
    l.foldl (fun acc x => insertByWidth x acc) acc = acc ++ l
  | [], acc, _ => (List.append_nil acc).symm
  | x :: xs, acc, h => by
    rw [List.foldl_cons, insertByWidth_last x acc fun y hy =>
        (List.pairwise_append.1 h).2.2 y hy x List.mem_cons_self,
      foldl_insert_of_sorted xs (acc ++ [x]) (by rwa [List.append_assoc]), List.append_assoc]
    rfl

theorem sortByWidth_of_sorted (l : List FrameInfo) (h : WSorted l) : sortByWidth l = l :=
  foldl_insert_of_sorted l [] h

/-- what the scan records for a frame -/
def FIok (f : FrameInfo) : Prop :=
  Tok f.frame ∧ f.num = atoiOr0 f.frame ∧ f.minWidth = frameMinSize f.frame

def IsVal (n : Int) : Prop := ∃ t, Tok t ∧ n = atoiOr0 t

/-- the frame texts a group (width, numbers) stands for -/
def gToks (g : Nat × List Int) : List Bytes := g.2.map (fun n => zfillInt n g.1)

def GOk (g : Nat × List Int) : Prop := 1 ≤ g.1 ∧ g.2 ≠ [] ∧ ∀ n ∈ g.2, IsVal n

theorem regroup_spec : ∀ (l : List FrameInfo) (w : Nat) (cur : List Int) (acc : List (Nat × List Int)),
    (∀ f ∈ l, FIok f) → WSorted l → (∀ f ∈ l, w ≤ f.frame.length) → GOk (w, cur) →
    (∀ g ∈ acc, GOk g) →
    (∀ g ∈ regroup l w cur acc, GOk g) ∧
    (regroup l w cur acc).flatMap gToks =
      acc.flatMap gToks ++ cur.map (fun n => zfillInt n w) ++ l.map (·.frame) := by
  intro l
  induction l with
  | nil =>
    intro w cur acc _ _ _ hcur hacc
    rw [regroup, List.isEmpty_eq_false_iff.2 hcur.2.1, if_neg Bool.false_ne_true]
    constructor
    · exact fun g hg => (List.mem_append.mp hg).elim (hacc g) fun hg => List.mem_singleton.1 hg ▸ hcur
    · rw [List.flatMap_append, List.flatMap_singleton, List.map_nil, List.append_nil]
      rfl
  | cons f rest ih =>
    intro w cur acc hfi hs hge hcur hacc
    obtain ⟨htok, hnum, hmw⟩ := hfi f List.mem_cons_self
    have hfi' : ∀ g ∈ rest, FIok g := fun g hg => hfi g (List.mem_cons_of_mem _ hg)
    have hp := List.pairwise_cons.mp hs
    have hfw := hge f List.mem_cons_self
    have hval : IsVal f.num := ⟨f.frame, htok, hnum⟩
    rw [regroup]
    by_cases c : f.frame.length ≠ w ∧ f.minWidth > w
    · rw [if_pos c]
      obtain ⟨h1, h2⟩ := ih f.frame.length [f.num] (acc ++ [(w, cur)]) hfi' hp.2 hp.1
        ⟨tok_pos htok, List.cons_ne_nil _ _, fun n hn => List.mem_singleton.1 hn ▸ hval⟩
        (fun g hg => (List.mem_append.mp hg).elim (hacc g) fun hg => List.mem_singleton.1 hg ▸ hcur)
      refine ⟨h1, ?_⟩
      rw [h2, List.flatMap_append, List.flatMap_singleton, List.map_singleton, hnum, tok_zfill_self htok,
        List.map_cons, List.append_assoc, List.append_assoc, List.append_assoc]
      rfl
    · rw [if_neg c]
      have hz : zfillInt f.num w = f.frame := hnum ▸ tok_zfill htok hfw (hmw ▸ c)
      obtain ⟨h1, h2⟩ := ih w (cur ++ [f.num]) acc hfi' hp.2
        (fun g hg => hge g (List.mem_cons_of_mem _ hg))
        ⟨hcur.1, List.append_ne_nil_of_left_ne_nil hcur.2.1 _, fun n hn =>
          (List.mem_append.mp hn).elim (hcur.2.2 n) fun hn => List.mem_singleton.1 hn ▸ hval⟩
        hacc
      refine ⟨h1, ?_⟩
      rw [h2, List.map_append, List.map_singleton, hz, List.map_cons, List.append_assoc,
        List.append_assoc, List.append_assoc]
      rfl

theorem group_fits (g : Nat × List Int) (hg : GOk g) :
    ∀ a ∈ g.2, ∀ b ∈ g.2, Fits a ∧ Fits (a - b) := by
  intro a ha b hb
  obtain ⟨t, ht, rfl⟩ := hg.2.2 a ha
  obtain ⟨u, hu, rfl⟩ := hg.2.2 b hb
  exact tok_fits ht hu

theorem group_seq (st : PadStyle) (dir base ext : Bytes) (g : Nat × List Int) (hg : GOk g)
    (hnd : g.2.Nodup) :
    (rebuild st dir base (framesToFrameRange g.2 true 0) (padChars st g.1) ext).paths.Perm
      (g.2.map (fun n => dir ++ base ++ zfillInt n g.1 ++ ext)) := by
  obtain ⟨fs, hfs, hfr⟩ := f2r_sorted g.2 0 hg.2.1 hnd (group_fits g hg)
  have := rebuild_some st dir base ext hg.1 (Or.inl rfl) hfs
  rw [this.2, hfr]
  exact (sortedSet_perm_self g.2 hnd).map _

theorem group_numbered (st : PadStyle) (dir base ext : Bytes) (g : Nat × List Int) (hg : GOk g) :
    (rebuild st dir base (framesToFrameRange g.2 true 0) (padChars st g.1) ext).frameSet.isSome = true := by
  obtain ⟨fs, hfs⟩ := f2r_parses g.2 0 hg.2.1 (group_fits g hg)
  rw [(rebuild_some st dir base ext hg.1 (Or.inl rfl) hfs).1]
  rfl

def bucketPaths (b : SeqInfo) : List Bytes :=
  b.frames.map (fun f => b.dir ++ b.base ++ f.frame ++ b.ext)

/-- What this file asks of a bucket, without reference to the scan (`Inv.bwf` in ListScan gives it
    of every bucket of a scan of tame names): tame frames as `addFrame` records them, the pad
    characters of the bucket's width, a frame of that width, a key that is not empty. -/
structure BWF (st : PadStyle) (b : SeqInfo) : Prop where
  ne : b.frames ≠ []
  fi : ∀ f ∈ b.frames, FIok f
  pad : b.padding = padChars st b.minWidth
  wit : ∃ f ∈ b.frames, b.minWidth = f.frame.length
  key : ¬ (b.base = [] ∧ b.ext = [])

/-- The sequence of a one-frame bucket. The pad characters are the bucket's, or none when the
    basename ends in a digit; without pad characters the range text is the token itself, otherwise
    the plain number. -/
theorem bucketSeqs_single (st : PadStyle) (b : SeqInfo) (f : FrameInfo) (h : b.frames = [f]) :
    ∃ pad, (pad = [] ∨ pad = b.padding) ∧ bucketSeqs st b =
      [rebuild st b.dir b.base (if pad.isEmpty then f.frame else itoa f.num) pad b.ext] := by
  unfold bucketSeqs
  rw [h]
  -- the model's pad is an `if` between the two
  exact ⟨_, (Decidable.em _).imp (fun h => if_pos h) (fun h => if_neg h), rfl⟩

theorem bucketSeqs_multi (st : PadStyle) (b : SeqInfo) (h : 2 ≤ b.frames.length) :
    bucketSeqs st b =
      (regroup (sortByWidth b.frames)
          (((sortByWidth b.frames).head?.map (·.frame.length)).getD 0) [] []).map
        (fun g => rebuild st b.dir b.base (framesToFrameRange g.2 true 0) (padChars st g.1) b.ext) := by
  unfold bucketSeqs
  match hf : b.frames, h with
  | f1 :: f2 :: r, _ => rfl

theorem bucketSeqs_one (st : PadStyle) (b : SeqInfo) (hb : BWF st b) (f : FrameInfo)
    (hf : b.frames = [f]) :
    ∃ s, bucketSeqs st b = [s] ∧ s.frameSet.isSome = true ∧
      s.paths = [b.dir ++ b.base ++ f.frame ++ b.ext] := by
  obtain ⟨htok, hnum, _⟩ := hb.fi f (hf ▸ List.mem_singleton.2 rfl)
  obtain ⟨pad, hpad, hbs⟩ := bucketSeqs_single st b f hf
  -- either way the range text denotes the token's number and the pad characters get its width
  obtain ⟨fs, hparse, hfr, hp⟩ : ∃ fs,
      FrameSet.parse (if pad.isEmpty then f.frame else itoa f.num) = .ok fs ∧ fs.frames = [f.num] ∧
      (pad = padChars st f.frame.length ∨
        (pad = [] ∧ (if pad.isEmpty then f.frame else itoa f.num).length = f.frame.length)) := by
    by_cases hpe : pad = []
    · subst hpe
      obtain ⟨fs, h1, h2⟩ := parse_tok htok
      exact ⟨fs, h1, hnum ▸ h2, Or.inr ⟨rfl, rfl⟩⟩
    · obtain ⟨fs, h1, h2⟩ := parse_itoa f.num (hnum ▸ (tok_fits htok htok).1)
      rw [if_neg (by rwa [List.isEmpty_iff])]
      refine ⟨fs, h1, h2, Or.inl ?_⟩
      -- the bucket's width is that of its one token
      obtain ⟨f', hf', e⟩ := hb.wit
      rw [hf, List.mem_singleton] at hf'
      rw [hpad.resolve_left hpe, hb.pad, e, hf']
  have := rebuild_some st b.dir b.base b.ext (tok_pos htok) hp hparse
  refine ⟨_, hbs, by rw [this.1]; rfl, ?_⟩
  rw [this.2, hfr, List.map_singleton, hnum, tok_zfill_self htok]

theorem bucketSeqs_groups (st : PadStyle) (b : SeqInfo) (hfi : ∀ f ∈ b.frames, FIok f)
    (hlen : 2 ≤ b.frames.length) :
    ∃ gs : List (Nat × List Int), (∀ g ∈ gs, GOk g) ∧
      (gs.flatMap gToks).Perm (b.frames.map (·.frame)) ∧
      bucketSeqs st b = gs.map fun g =>
        rebuild st b.dir b.base (framesToFrameRange g.2 true 0) (padChars st g.1) b.ext := by
  rw [bucketSeqs_multi st b hlen]
  have hperm := sortByWidth_perm b.frames
  have hsorted := sortByWidth_sorted b.frames
  generalize sortByWidth b.frames = sorted at hperm hsorted ⊢
  match sorted, hperm, hsorted with
  | [], hperm, _ => rw [← hperm.length_eq] at hlen; cases hlen
  | f0 :: rest, hperm, hsorted =>
    have hfi' : ∀ f ∈ f0 :: rest, FIok f := fun f hf => hfi f (hperm.mem_iff.mp hf)
    obtain ⟨htok, hnum, _⟩ := hfi' f0 List.mem_cons_self
    have hp := List.pairwise_cons.mp hsorted
    -- the walk starts with the first frame as the current group
    have hstart : regroup (f0 :: rest) ((((f0 :: rest).head?.map (·.frame.length)).getD 0)) [] [] =
        regroup rest f0.frame.length [f0.num] [] := by
      simp [regroup]
    obtain ⟨hgok, hflat⟩ := regroup_spec rest f0.frame.length [f0.num] []
      (fun f hf => hfi' f (List.mem_cons_of_mem _ hf)) hp.2 hp.1
      ⟨tok_pos htok, List.cons_ne_nil _ _, fun n hn => List.mem_singleton.1 hn ▸ ⟨f0.frame, htok, hnum⟩⟩
      (fun g hg => nomatch hg)
    refine ⟨_, hgok, ?_, by rw [hstart]⟩
    rw [hflat, List.flatMap_nil, List.nil_append, List.map_singleton, hnum, tok_zfill_self htok]
    exact hperm.map _

theorem bucket_cover (st : PadStyle) (b : SeqInfo) (hb : BWF st b)
    (hnd : (b.frames.map (·.frame)).Nodup) :
    ((bucketSeqs st b).flatMap Seq.paths).Perm (bucketPaths b) := by
  match hf : b.frames with
  | [] => exact absurd hf hb.ne
  | [f] =>
    obtain ⟨s, hs, _, hp⟩ := bucketSeqs_one st b hb f hf
    rw [hs, List.flatMap_singleton, hp, bucketPaths, hf]
    rfl
  | f1 :: f2 :: r =>
    obtain ⟨gs, hgok, hflat, hbs⟩ := bucketSeqs_groups st b hb.fi (by rw [hf]; simp)
    rw [hbs, List.flatMap_map]
    -- the tokens are pairwise distinct, hence so are the numbers of each group
    have hgnd : ∀ g ∈ gs, g.2.Nodup := fun g hg =>
      ((hflat.nodup_iff.2 hnd).sublist (sublist_flatMap_of_mem gToks gs g hg)).of_map _
        fun _ _ h e => h (by rw [e])
    refine (perm_flatMap_left gs _ (fun g => (gToks g).map fun t => b.dir ++ b.base ++ t ++ b.ext)
      fun g hg => ?_).trans ?_
    · rw [gToks, List.map_map]
      exact group_seq st b.dir b.base b.ext g (hgok g hg) (hgnd g hg)
    · rw [← List.map_flatMap, bucketPaths]
      exact (hflat.map _).trans (List.Perm.of_eq (List.map_map ..))

theorem bucketSeqs_key (st : PadStyle) (b : SeqInfo) :
    ∀ s ∈ bucketSeqs st b, s.dir = b.dir ∧ s.base = b.base ∧ s.ext = b.ext := by
  intro s hs
  unfold bucketSeqs at hs
  split at hs
  · cases hs
  · rw [List.mem_singleton.1 hs]
    exact rebuild_key ..
  · obtain ⟨g, _, rfl⟩ := List.mem_map.1 hs
    exact rebuild_key ..

theorem bucket_numbered (st : PadStyle) (b : SeqInfo) (hb : BWF st b) :
    ∀ s ∈ bucketSeqs st b, s.frameSet.isSome = true := by
  match hf : b.frames with
  | [] => exact absurd hf hb.ne
  | [f] =>
    obtain ⟨s, hs, h1, _⟩ := bucketSeqs_one st b hb f hf
    rw [hs]
    exact fun s' hs' => List.mem_singleton.1 hs' ▸ h1
  | f1 :: f2 :: r =>
    obtain ⟨gs, hgok, _, hbs⟩ := bucketSeqs_groups st b hb.fi (by rw [hf]; simp)
    rw [hbs]
    intro s hs
    obtain ⟨g, hg, rfl⟩ := List.mem_map.mp hs
    exact group_numbered st b.dir b.base b.ext g (hgok g hg)

end ListAux

-- `Order`, here: a bucket whose tokens all have one width (`bucketSeqs_uniform`, on which C05_order,
-- C07's `find_uniform` and C19 rest).
namespace Order

theorem regroup_uniform (w : Nat) : ∀ (l : List FrameInfo) (cur : List Int) (acc : List (Nat × List Int)),
    (∀ f ∈ l, f.frame.length = w) →
    regroup l w cur acc = if (cur ++ l.map (·.num)).isEmpty then acc else acc ++ [(w, cur ++ l.map (·.num))]
  | [], cur, acc, _ => by simp [regroup]
  | f :: rest, cur, acc, h => by
    have hf : f.frame.length = w := h f List.mem_cons_self
    rw [regroup, if_neg (by intro hc; exact hc.1 hf)]
    rw [regroup_uniform w rest (cur ++ [f.num]) acc (fun g hg => h g (List.mem_cons_of_mem _ hg))]
    simp

theorem bucketSeqs_uniform (st : PadStyle) (b : SeqInfo) (w : Nat) (hlen : 2 ≤ b.frames.length)
    (hw : ∀ f ∈ b.frames, f.frame.length = w) :
    bucketSeqs st b =
      [rebuild st b.dir b.base (framesToFrameRange (b.frames.map (·.num)) true 0) (padChars st w) b.ext] := by
  rw [ListAux.bucketSeqs_multi st b hlen, ListAux.sortByWidth_of_sorted b.frames
    (List.pairwise_of_forall_mem_list fun f hf g hg => Nat.le_of_eq ((hw f hf).trans (hw g hg).symm))]
  cases hf : b.frames with
  | nil => rw [hf] at hlen; simp at hlen
  | cons f1 r1 =>
    have hh : (((f1 :: r1).head?.map (·.frame.length)).getD 0) = w := by
      simp; exact hw f1 (by rw [hf]; exact List.mem_cons_self)
    rw [hh, regroup_uniform w (f1 :: r1) [] [] (by rw [← hf]; exact hw)]
    simp

end Order
end Gfs.Proofs
