/-
  GfsProofs.SeqlsLemmas — the seqls channel pipeline prints every result exactly once,
  never deadlocks and always terminates, under every schedule (C17).

  Five of the seven steps replace one worker (`workers.set i wnew`) and touch the loader's or the
  printer's side; the other two only flip a flag.  So each global fact is lifted once from the
  worker that moves to the state: the conserved lines (`conserves_set`) and the decreasing measure
  (`cost_set_lt`) by one fact about lists (`cons_set_perm`), the invariant by `Inv.set`; what is
  left per step is local.  Namespace `SeqlsP` (P for pipeline) is this file.
-/
import GfsModel.Seqls

namespace Gfs.Proofs.SeqlsP
open Gfs.Seqls

theorem cons_set_perm {α : Type} {a : α} (b : α) :
    ∀ {l : List α} {i : Nat}, l[i]? = some a → (a :: l.set i b).Perm (b :: l)
  | c :: t, 0, h => by
      cases Option.some.inj h
      exact List.Perm.swap b a t
  | c :: t, i + 1, h =>
      ((List.Perm.swap c a _).trans ((cons_set_perm b (l := t) (i := i) h).cons c)).trans
        (List.Perm.swap b c t)

theorem forall_mem_set {α : Type} {P : α → Prop} {l : List α} {i : Nat} {x : α}
    (h : ∀ a ∈ l, P a) (hx : P x) : ∀ a ∈ l.set i x, P a := by
  intro a hm
  rcases List.mem_or_eq_of_mem_set hm with hm | rfl
  · exact h a hm
  · exact hx

def wlines : Worker → List Line
  | .holding _ _ ls => ls
  | _ => []

theorem heldLines_eq (ws : List Worker) : heldLines ws = ws.flatMap wlines := rfl

theorem heldLines_nil : heldLines [] = [] := rfl

theorem heldLines_cons (a : Worker) (t : List Worker) :
    heldLines (a :: t) = wlines a ++ heldLines t := List.flatMap_cons

theorem heldLines_eq_nil {ws : List Worker} (h : ∀ wk ∈ ws, wlines wk = []) : heldLines ws = [] :=
  List.flatMap_eq_nil_iff.2 h

theorem expectedLines_nil : expectedLines [] = [] := rfl

theorem expectedLines_cons (it : Item) (rest : List Item) :
    expectedLines (it :: rest) = it.result.getD [] ++ expectedLines rest := List.flatMap_cons

theorem expectedLines_append (a b : List Item) :
    expectedLines (a ++ b) = expectedLines a ++ expectedLines b := List.flatMap_append

theorem expectedLines_bad {bad : Item} (hb : bad.result = none) (a b : List Item) :
    expectedLines (a ++ bad :: b) = expectedLines (a ++ b) := by
  rw [expectedLines_append, expectedLines_cons, hb, expectedLines_append]
  rfl

theorem wlines_afterRecv (d s : Bool) (it : Item) :
    wlines (afterRecv d s it) = it.result.getD [] := by
  unfold afterRecv
  cases it.result <;> rfl

theorem heldLines_set_perm (wold wnew : Worker) (ws : List Worker) (i : Nat)
    (h : ws[i]? = some wold) :
    List.Perm (wlines wold ++ heldLines (ws.set i wnew)) (wlines wnew ++ heldLines ws) :=
  (cons_set_perm wnew h).flatMap_right wlines

/-- a worker's move conserves the lines overall if it does so locally: what goes to the printer
    (`p` to `p'`) or comes from the loader (`e` to `e'`) is what the worker held or holds -/
theorem conserves_set {ws : List Worker} {i : Nat} {wold wnew : Worker}
    (hi : ws[i]? = some wold) {p p' e e' : List Line}
    (h : p' ++ wlines wnew ++ e' = p ++ wlines wold ++ e) :
    (p' ++ heldLines (ws.set i wnew) ++ e').Perm (p ++ heldLines ws ++ e) := by
  rw [List.perm_iff_count]
  intro x
  have hc := (heldLines_set_perm wold wnew ws i hi).count_eq x
  have hl := congrArg (List.count x) h
  simp only [List.count_append] at hc hl ⊢
  omega

/-- the summand of `measure` for one worker: 1 for each input it has yet to see closed, 1 for
    leaving the loop, 1 more while it holds a result (`emit` pays with it).  A receive raises it by
    at most 1 (`wcost_afterRecv_le`), which the 3 per pending item more than covers. -/
def wcost : Worker → Nat
  | .idle d s => (if d then 1 else 0) + (if s then 1 else 0) + 1
  | .holding d s _ => (if d then 1 else 0) + (if s then 1 else 0) + 2
  | .done => 0

theorem measure_eq (st : State) :
    Seqls.measure st = 3 * (st.pendSeqs.length + st.pendDirs.length) +
      (if st.inputsClosed then 0 else 1) + (if st.outClosed then 0 else 1) +
      (st.workers.map wcost).sum := rfl

theorem wcost_afterRecv_le (d s : Bool) (it : Item) :
    wcost (afterRecv d s it) ≤ wcost (.idle d s) + 1 := by
  unfold afterRecv
  cases it.result <;> simp only [wcost] <;> omega

/-- a worker's move lowers the total cost if it does so locally (`a`: the loader's share) -/
theorem cost_set_lt {ws : List Worker} {i : Nat} {wold wnew : Worker}
    (hi : ws[i]? = some wold) {a a' : Nat} (h : a' + wcost wnew < a + wcost wold) :
    a' + ((ws.set i wnew).map wcost).sum < a + (ws.map wcost).sum := by
  have := ((cons_set_perm wnew hi).map wcost).sum_nat
  simp only [List.map_cons, List.sum_cons] at this
  omega

/-- while the inputs are open a worker has both local channel copies non-nil (and is in the loop) -/
def Worker.fresh : Worker → Prop
  | .idle d s => d = true ∧ s = true
  | .holding d s _ => d = true ∧ s = true
  | .done => False

/-- a worker that has nil-ed both copies has left the loop -/
def Worker.ok : Worker → Prop
  | .idle d s => d = true ∨ s = true
  | .holding d s _ => d = true ∨ s = true
  | .done => True

/-- what every reachable state satisfies.  `closed` and `outc` are "no send on a closed channel":
    once the inputs are closed the loader has nothing left to send, once the output is closed every
    worker has left the loop; `fresh` and `ok` tie a worker's local channel copies to the shared
    flag, which is what enables a step in `no_deadlock`. -/
structure Inv (w : Nat) (st : State) : Prop where
  len : st.workers.length = w
  fresh : st.inputsClosed = false → ∀ wk ∈ st.workers, Worker.fresh wk
  closed : st.inputsClosed = true → st.pendSeqs = [] ∧ st.pendDirs = []
  ok : ∀ wk ∈ st.workers, Worker.ok wk
  outc : st.outClosed = true → ∀ wk ∈ st.workers, wk = .done

theorem fresh_afterRecv (d s : Bool) (it : Item) :
    Worker.fresh (afterRecv d s it) ↔ Worker.fresh (.idle d s) := by
  unfold afterRecv
  cases it.result <;> exact Iff.rfl

theorem ok_afterRecv (d s : Bool) (it : Item) :
    Worker.ok (afterRecv d s it) ↔ Worker.ok (.idle d s) := by
  unfold afterRecv
  cases it.result <;> exact Iff.rfl

theorem inv_init (seqs dirs : List Item) (w : Nat) : Inv w (initState seqs dirs w) where
  len := List.length_replicate
  fresh := fun _ _ hm => List.eq_of_mem_replicate hm ▸ ⟨rfl, rfl⟩
  closed := nofun
  ok := fun _ hm => List.eq_of_mem_replicate hm ▸ Or.inl rfl
  outc := nofun

/-- the invariant survives a step that replaces a worker which is not done (so the output is
    open) by one that is as fresh and as ok, and keeps `closed` -/
theorem Inv.set {w : Nat} {st : State} {i : Nat} {wold wnew : Worker} {ps pd : List Item}
    {pr : List Line} (hinv : Inv w st) (hi : st.workers[i]? = some wold) (hne : wold ≠ .done)
    (hclosed : st.inputsClosed = true → ps = [] ∧ pd = [])
    (hfresh : st.inputsClosed = false → Worker.fresh wold → Worker.fresh wnew)
    (hok : Worker.ok wold → Worker.ok wnew) :
    Inv w { st with pendSeqs := ps, pendDirs := pd, workers := st.workers.set i wnew,
                    printed := pr } where
  len := List.length_set.trans hinv.len
  fresh := fun hc =>
    forall_mem_set (hinv.fresh hc) (hfresh hc (hinv.fresh hc _ (List.mem_of_getElem? hi)))
  closed := hclosed
  ok := forall_mem_set hinv.ok (hok (hinv.ok _ (List.mem_of_getElem? hi)))
  outc := fun hc => absurd (hinv.outc hc wold (List.mem_of_getElem? hi)) hne

theorem inv_step {w : Nat} {st st' : State} (hinv : Inv w st) (h : Step st st') : Inv w st' := by
  -- `induction`, not `cases` (also in `step_conserves`, `C17_terminates`): both states are variables,
  -- so the recursor applies as it stands, where `cases` first solves an equation between states
  -- for each step; `Step` is not recursive, no induction hypothesis appears
  induction h with
  | sendSeq i it rest d hp hi =>
      refine hinv.set hi nofun (fun hc => ?_)
        (fun _ => (fresh_afterRecv d true it).2) (ok_afterRecv d true it).2
      exact absurd ((hinv.closed hc).1.symm.trans hp) nofun
  | sendDir i it rest s hps hp hi =>
      refine hinv.set hi nofun (fun hc => ?_)
        (fun _ => (fresh_afterRecv true s it).2) (ok_afterRecv true s it).2
      exact absurd ((hinv.closed hc).2.symm.trans hp) nofun
  | closeInputs hps hpd hc =>
      exact ⟨hinv.len, nofun, fun _ => ⟨hps, hpd⟩, hinv.ok, hinv.outc⟩
  | seeDirsClosed i b hc hi | seeSeqsClosed i b hc hi =>
      refine hinv.set hi nofun hinv.closed (fun h => absurd (hc.symm.trans h) nofun) ?_
      cases b <;> simp [Worker.ok]
  | emit i d s ls hi ho =>
      exact hinv.set hi nofun hinv.closed (fun _ => id) id
  | closeOutput hall ho =>
      exact ⟨hinv.len, hinv.fresh, hinv.closed, hinv.ok, fun _ => hall⟩

theorem inv_reach {seqs dirs : List Item} {w : Nat} {st : State} (h : Reach seqs dirs w st) :
    Inv w st := by
  induction h with
  | init => exact inv_init seqs dirs w
  | step _ hs ih => exact inv_step ih hs

theorem step_conserves {st st' : State} (h : Step st st') :
    List.Perm (st'.printed ++ heldLines st'.workers ++ expectedLines (st'.pendSeqs ++ st'.pendDirs))
      (st.printed ++ heldLines st.workers ++ expectedLines (st.pendSeqs ++ st.pendDirs)) := by
  induction h with
  | sendSeq i it rest d hp hi =>
      apply conserves_set hi
      rw [wlines_afterRecv]
      simp only [hp, wlines, List.cons_append, expectedLines_cons, List.append_assoc,
        List.nil_append]
  | sendDir i it rest s hps hp hi =>
      apply conserves_set hi
      rw [wlines_afterRecv]
      simp only [hps, hp, wlines, List.nil_append, expectedLines_cons, List.append_assoc]
  | closeInputs hps hpd hc => exact .refl _
  | seeDirsClosed i b hc hi | seeSeqsClosed i b hc hi =>
      apply conserves_set hi
      cases b <;> rfl
  | emit i d s ls hi ho =>
      apply conserves_set hi
      simp only [wlines, List.append_nil]
  | closeOutput hall ho => exact .refl _

theorem conservation (seqs dirs : List Item) (w : Nat) (st : State) (h : Reach seqs dirs w st) :
    List.Perm (st.printed ++ heldLines st.workers ++ expectedLines (st.pendSeqs ++ st.pendDirs))
      (expectedLines (seqs ++ dirs)) := by
  induction h with
  | init =>
      have : heldLines (initState seqs dirs w).workers = [] :=
        heldLines_eq_nil fun wk hm => List.eq_of_mem_replicate hm ▸ rfl
      rw [this]
      exact .refl _
  | step _ hs ih => exact (step_conserves hs).trans ih

/-- holds with no worker at all: then the closer's step is enabled -/
theorem no_deadlock {seqs dirs : List Item} {w : Nat} {st : State}
    (h : Reach seqs dirs w st) (hnf : ¬ Final st) : ∃ st', Step st st' := by
  have hinv := inv_reach h
  have ho : st.outClosed = false := Bool.eq_false_iff.2 hnf
  by_cases hall : ∀ wk ∈ st.workers, wk = .done
  · exact ⟨_, .closeOutput st hall ho⟩
  obtain ⟨wk, hwk⟩ := Classical.not_forall.1 hall
  obtain ⟨hm, hne⟩ := Classical.not_imp.1 hwk
  obtain ⟨i, hi⟩ := List.getElem?_of_mem hm
  match wk with
  | .holding d s ls => exact ⟨_, .emit st i d s ls hi ho⟩
  | .idle d s =>
    cases hc : st.inputsClosed
    · obtain ⟨rfl, rfl⟩ := hinv.fresh hc _ hm
      cases hps : st.pendSeqs with
      | cons it rest => exact ⟨_, .sendSeq st i it rest true hps hi⟩
      | nil =>
          cases hpd : st.pendDirs with
          | cons it rest => exact ⟨_, .sendDir st i it rest true hps hpd hi⟩
          | nil => exact ⟨_, .closeInputs st hps hpd hc⟩
    · rcases hinv.ok _ hm with rfl | rfl
      · exact ⟨_, .seeDirsClosed st i s hc hi⟩
      · exact ⟨_, .seeSeqsClosed st i d hc hi⟩

end Gfs.Proofs.SeqlsP
