/-
  GfsProofs.SeqLemmas — where the frame set of a sequence can come from after a history of calls,
  and what Copy and Split make of a sequence whose range string parses (C12).

  `Seq.Reparses` says "re-parsing the range string gives back the identical frame set"; that is
  true of parsed frame sets only.  Histories may also install frame sets PRINTED FROM BLOCKS
  (SetFrameSet(Normalize()), SetFrameSet(Invert())): there the re-parse may build the blocks
  differently (and fails when a printed number does not fit an int, in which case Copy keeps the
  set it has).  `Seq.Sound` is the weaker invariant that covers both.
-/
import GfsProofs.IndexLemmas
import GfsProofs.StrParse

namespace Gfs.Proofs
open Gfs Gfs.Spec

/-- the frame set of a sequence re-creates itself from its range string (true of every frame
    set obtained from NewFrameSet / SetFrameRange) -/
def Seq.Reparses (s : Seq) : Prop :=
  ∀ fs, s.frameSet = some fs → FrameSet.parse fs.frange = .ok fs

theorem copy_ok (s : Seq) {fs fs' : FrameSet} (h : s.frameSet = some fs)
    (hp : FrameSet.parse fs.frange = .ok fs') : s.copy = { s with frameSet := some fs' } := by
  simp only [Seq.copy, h, hp]

theorem copy_cases (s : Seq) :
    s.copy = s ∨ ∃ fs fs', s.frameSet = some fs ∧ FrameSet.parse fs.frange = .ok fs' ∧
      s.copy = { s with frameSet := some fs' } := by
  cases hfs : s.frameSet with
  | none => exact Or.inl (by simp only [Seq.copy, hfs])
  | some fs =>
    cases hp : FrameSet.parse fs.frange with
    | error e => exact Or.inl (by simp only [Seq.copy, hfs, hp])
    | ok fs' => exact Or.inr ⟨fs, fs', rfl, hp, copy_ok s hfs hp⟩

theorem parse_frameSet {st : PadStyle} {txt : Bytes} {s : Seq} (h : Seq.parse st txt = .ok s)
    {fs : FrameSet} (hfs : s.frameSet = some fs) : ∃ r, FrameSet.parse r = .ok fs := by
  revert h hfs
  refine seqParse_elim (motive := fun x => x = .ok s → s.frameSet = some fs → _) st txt
    ?split ?error ?file ?frame
  case split =>
    intro name rng pad ext _ h hfs
    cases h
    refine ⟨rng, ?_⟩
    cases hr : FrameSet.parse rng with
    | error e => rw [hr] at hfs; cases hfs
    | ok fs' => rw [hr] at hfs; cases hfs; rfl
  case error =>
    intro _ _ h
    cases h
  case file =>
    intro base ext _ _ _ h hfs
    cases h
    cases hfs
  case frame =>
    intro name fr ext fs' _ _ _ hp h hfs
    cases h
    cases hfs
    exact ⟨fr, hp⟩

/-- Where the frame set of a sequence comes from: one call leaves it as it is, or installs one
    that NewFrameSet returned, or (Normalize, Invert) one printed from normalized blocks. -/
theorem apply_frameSet (s : Seq) (op : SeqOp) {fs : FrameSet}
    (h : (s.apply op).frameSet = some fs) :
    s.frameSet = some fs ∨ (∃ r, FrameSet.parse r = .ok fs) ∨
    (op.derived = true ∧ ∃ fs0 inv, s.frameSet = some fs0 ∧
      fs = ⟨(fs0.blocks.normalized inv).str, fs0.blocks.normalized inv⟩) := by
  cases op with
  | setDirname _ | setBasename _ | setExt _ | setPadding _ | setStyle _ | split => exact Or.inl h
  | setFrameRange r =>
    cases hr : FrameSet.parse r with
    | error e => exact Or.inl (by simpa only [Seq.apply, Seq.setFrameRange, hr] using h)
    | ok fs' =>
      simp only [Seq.apply, Seq.setFrameRange, hr, Option.some.injEq] at h
      exact Or.inr (Or.inl ⟨r, h ▸ hr⟩)
  | setFrameSet r =>
    cases hr : FrameSet.parse r with
    | error e => simp [Seq.apply, Seq.setFrameSet, hr, Except.toOption] at h
    | ok fs' =>
      simp only [Seq.apply, Seq.setFrameSet, hr, Except.toOption, Option.some.injEq] at h
      exact Or.inr (Or.inl ⟨r, h ▸ hr⟩)
  | normalize | invertSet =>
    cases h0 : s.frameSet with
    | none => simp only [Seq.apply, h0] at h; exact Or.inl (h0 ▸ h)
    | some fs0 =>
      simp only [Seq.apply, h0, Seq.setFrameSet, Option.some.injEq] at h
      exact Or.inr (Or.inr ⟨rfl, fs0, _, rfl, h.symm⟩)
  | copy =>
    rcases copy_cases s with e | ⟨fs0, fs', _, hp, e⟩
    · exact Or.inl (by rwa [Seq.apply, e] at h)
    · rw [Seq.apply, e] at h
      cases h
      exact Or.inr (Or.inl ⟨_, hp⟩)

/-- Hence a property of frame sets that holds of everything NewFrameSet returns — and, where
    the history has such calls, survives printing the normalized blocks — holds of the frame
    set after the history if it held of the one before. -/
theorem run_frameSet {P : FrameSet → Prop} (hparse : ∀ r fs, FrameSet.parse r = .ok fs → P fs)
    (ops : List SeqOp)
    (hder : ∀ op ∈ ops, op.derived = true → ∀ fs inv, P fs →
      P ⟨(fs.blocks.normalized inv).str, fs.blocks.normalized inv⟩)
    (s : Seq) (h : ∀ fs, s.frameSet = some fs → P fs) :
    ∀ fs, (s.run ops).frameSet = some fs → P fs := by
  induction ops generalizing s with
  | nil => exact h
  | cons op ops ih =>
    refine ih (fun o ho => hder o (List.mem_cons_of_mem _ ho)) (s.apply op) ?_
    intro fs hfs
    rcases apply_frameSet s op hfs with h0 | ⟨r, hr⟩ | ⟨hd, fs0, inv, h0, rfl⟩
    · exact h fs h0
    · exact hparse r fs hr
    · exact hder op List.mem_cons_self hd fs0 inv (h fs0 h0)

def Seq.frames (s : Seq) : List Int := match s.frameSet with | some fs => fs.frames | none => []

theorem split_parts (s : Seq) (cs : List Comp) (ps : List Bytes)
    (hc : Forall2 CompText cs (ps.map stripJunk)) (hv : ∀ c ∈ cs, c.valid) :
    (∀ q ∈ ps.map (fun p => (s.setFrameRange p).1),
        q.dir = s.dir ∧ q.base = s.base ∧ q.pad = s.pad ∧ q.zfill = s.zfill ∧
        q.style = s.style ∧ q.ext = s.ext ∧ q.frameSet.isSome = true) ∧
    (ps.map (fun p => (s.setFrameRange p).1)).flatMap Seq.frames =
      cs.flatMap (fun c => dedupFirst (expand c)) := by
  induction ps generalizing cs with
  | nil =>
    cases hc
    simp
  | cons p ps ih =>
    cases hc with
    | @cons c _ cs' _ hcp hrest =>
      obtain ⟨ih1, ih2⟩ := ih cs' hrest (fun c hc => hv c (List.mem_cons_of_mem _ hc))
      obtain ⟨fs, hfs, hfr⟩ := parse_part c p hcp (hv c List.mem_cons_self)
      have e : (s.setFrameRange p).1 = { s with frameSet := some fs } := by
        simp [Seq.setFrameRange, hfs]
      constructor
      · intro q hq
        rw [List.map_cons] at hq
        rcases List.mem_cons.1 hq with rfl | hq
        · rw [e]; simp
        · exact ih1 q hq
      · rw [List.map_cons, List.flatMap_cons, List.flatMap_cons, ih2, e]
        simp [Seq.frames, hfr]

/-- `Split` is one SetFrameRange on the copy per comma component of the range string — also
    when there is just one, which is the range string itself -/
theorem split_eq_map (s : Seq) (fs fs' : FrameSet) (h : s.frameSet = some fs)
    (hp : FrameSet.parse fs.frange = .ok fs') :
    s.split = (splitOn ',' fs.frange).map (fun p => (s.copy.setFrameRange p).1) := by
  simp only [Seq.split, h]
  split
  · rename_i hlen
    obtain ⟨x, hx⟩ := List.length_eq_one_iff.mp hlen
    have hj := joinWith_splitOn fs.frange
    rw [hx] at hj
    have hxe : x = fs.frange := by simpa [joinWith] using hj
    rw [hx, hxe, List.map_singleton, copy_ok s h hp]
    simp only [Seq.setFrameRange, hp]
  · rfl

/-- Split needs no invariant of the history: only that the range string of the frame set parses.
    The frames that come back are those of the re-parsed set `fs'`. -/
theorem split_parsed {s : Seq} {fs fs' : FrameSet} (h : s.frameSet = some fs)
    (hp : FrameSet.parse fs.frange = .ok fs') :
    (s.split).length = (splitOn ',' fs.frange).length ∧
    (∀ p ∈ s.split, p.dir = s.dir ∧ p.base = s.base ∧ p.pad = s.pad ∧ p.zfill = s.zfill ∧
        p.style = s.style ∧ p.ext = s.ext ∧ p.frameSet.isSome = true) ∧
    dedupFirst ((s.split).flatMap Seq.frames) = fs'.frames := by
  obtain ⟨cs, hne, ⟨parts, hparts, hstrip⟩, hv, hfr, -⟩ := parse_ok_sound hp
  obtain ⟨hpne, hnc, -⟩ := forall2_compText_parts hparts
  have hpe : parts = (splitOn ',' fs.frange).map stripJunk := by
    rw [← splitOn_stripJunk, hstrip, splitOn_joinWith parts (hpne hne) hnc]
  rw [hpe] at hparts
  obtain ⟨h1, h2⟩ := split_parts s.copy cs _ hparts hv
  rw [split_eq_map s fs fs' h hp]
  refine ⟨by simp, ?_, ?_⟩
  · intro p hpm
    have := h1 p hpm
    rw [copy_ok s h hp] at this
    exact this
  · rw [h2, dedupFirst_flatMap_dedup, hfr]
    rfl

def Seq.Sound (s : Seq) : Prop :=
  ∀ fs, s.frameSet = some fs → WF fs.blocks ∧
    ∀ fs', FrameSet.parse fs.frange = .ok fs' → fs'.frames = fs.frames ∧ WF fs'.blocks

/-- The clause of `Seq.Sound` for one frame set, written out because it is the `P` that
    `run_frameSet` finds by unification: it holds of what NewFrameSet returns. -/
theorem sound_of_parsed (r : Bytes) (fs : FrameSet) (h : FrameSet.parse r = .ok fs) :
    WF fs.blocks ∧ ∀ fs', FrameSet.parse fs.frange = .ok fs' → fs'.frames = fs.frames ∧ WF fs'.blocks := by
  have hwf := parse_ok_wf h
  refine ⟨hwf, ?_⟩
  intro fs' hp
  rw [parse_reparses r fs h] at hp
  cases hp
  exact ⟨rfl, hwf⟩

/-- A frame set printed from its blocks (Normalize, Invert): if the print parses at all, it parses
    to the same frames.  (It need not: a printed number may not fit an int.)  Stated on the very
    term `run_frameSet` asks about: a statement in `WF b ∧ … = b.iter` has to be unified with that
    term through `Blocks.normalized`, which the unifier unfolds. -/
theorem sound_of_blocks {b : Blocks} (hwf : WF b) :
    WF (⟨Blocks.str b, b⟩ : FrameSet).blocks ∧
    ∀ fs', FrameSet.parse (⟨Blocks.str b, b⟩ : FrameSet).frange = .ok fs' →
      fs'.frames = (⟨Blocks.str b, b⟩ : FrameSet).frames ∧ WF fs'.blocks := by
  refine ⟨hwf, fun fs' hp => ?_⟩
  by_cases hne : b = []
  · -- the empty container prints as "", which does not parse
    subst hne
    rw [show FrameSet.frange ⟨Blocks.str [], []⟩ = [] from rfl, parse_nil] at hp
    cases hp
  · obtain ⟨hf, hw⟩ := str_parse_frames b hwf hne fs' hp
    exact ⟨hf.trans (blocks_iter b hwf).symm, hw⟩

end Gfs.Proofs
