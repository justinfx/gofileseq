/-
  GfsProofs.NormLemmas — `normalized`: the invariant of its loop, the result as the filter of
  `[min..max]`, and hence the sorted set / the complement within [min,max] (C08), as well-formed
  block lists.
-/
import GfsProofs.BlocksLemmas
import GfsProofs.SortLemmas

namespace Gfs.Proofs
open Gfs Gfs.Spec

/-- loop invariant of `normalized` before examining `a + n`: the emitted blocks and the pending run
    hold the wanted values so far; while one value is pending, `step` counts the distance from it -/
def NInv (skip : Int → Bool) (a : Int) (n : Nat) (σ : Blocks.NState) : Prop :=
  RunInv σ.out σ.start σ.step σ.pending σ.stop ((prog a 1 n).filter (fun v => !skip v)) ∧
  (σ.pending = 1 → 0 < σ.step ∧ σ.stop + σ.step = a + (n : Int))

section
variable {skip : Int → Bool} {out : Blocks} {start stop step cur : Int} {pending : Nat}

theorem nStep_skip_lt (hs : skip cur = true) (hp : pending < 2) :
    Blocks.nStep skip ⟨out, start, stop, step, pending⟩ cur = ⟨out, start, stop, step + 1, pending⟩ := by
  simp [Blocks.nStep, hs, hp]

theorem nStep_skip_emit (hs : skip cur = true) (hp : 2 ≤ pending) (hc : cur + 1 - stop ≠ step) :
    Blocks.nStep skip ⟨out, start, stop, step, pending⟩ cur
      = ⟨out ++ [mkRng start stop step], cur, stop, 1, 0⟩ := by
  have : ¬ pending < 2 := by omega
  simp [Blocks.nStep, hs, this, hc]

theorem nStep_skip_keep (hs : skip cur = true) (hp : 2 ≤ pending) (hc : cur + 1 - stop = step) :
    Blocks.nStep skip ⟨out, start, stop, step, pending⟩ cur = ⟨out, start, stop, step, pending⟩ := by
  have : ¬ pending < 2 := by omega
  simp [Blocks.nStep, hs, this, hc]

theorem nStep_want_zero (hs : ¬ skip cur = true) :
    Blocks.nStep skip ⟨out, start, stop, step, 0⟩ cur = ⟨out, cur, cur, 1, 1⟩ := by
  simp [Blocks.nStep, hs]

theorem nStep_want_emit (hs : ¬ skip cur = true) (hp : 2 ≤ pending) (hc : cur - stop ≠ step) :
    Blocks.nStep skip ⟨out, start, stop, step, pending⟩ cur
      = ⟨out ++ [mkRng start stop step], cur, cur, 1, 1⟩ := by
  simp [Blocks.nStep, hs, hp, hc]

/-- a second value is taken without any test; later ones must be one `step` on -/
theorem nStep_want_ext (hs : ¬ skip cur = true) (hp : pending ≠ 0) (hc : 2 ≤ pending → cur - stop = step) :
    Blocks.nStep skip ⟨out, start, stop, step, pending⟩ cur
      = ⟨out, start, cur, step, pending + 1⟩ := by
  by_cases h2 : 2 ≤ pending
  · simp [Blocks.nStep, hs, hc h2, hp]
  · simp [Blocks.nStep, hs, h2, hp]
end

theorem nInv_step (skip : Int → Bool) (a : Int) (n : Nat) (σ : Blocks.NState)
    (h : NInv skip a n σ) : NInv skip a (n + 1) (Blocks.nStep skip σ (a + (n : Int))) := by
  obtain ⟨out, start, stop, step, pending⟩ := σ
  obtain ⟨hrun, hone⟩ := h
  dsimp only at hrun hone
  unfold NInv
  rw [filter_not_prog_succ, Int.one_mul, Int.natCast_add, Int.natCast_one, ← Int.add_assoc]
  generalize a + (n : Int) = cur at hone ⊢
  generalize (prog a 1 n).filter (fun v => !skip v) = L at hrun ⊢
  by_cases hsk : skip cur = true
  · rw [if_pos hsk, List.append_nil]
    by_cases hp : pending < 2
    · rw [nStep_skip_lt hsk hp]
      obtain ⟨hws, hE, hr⟩ := hrun
      -- at most one value is pending, and a run of at most one value does not depend on `step`
      refine ⟨⟨hws, prog_of_le_one start step (step + 1) (Nat.le_of_lt_succ hp) ▸ hE, fun h0 => ?_⟩,
        fun h1 => ?_⟩
      · obtain rfl : pending = 1 := Nat.le_antisymm (Nat.le_of_lt_succ hp) h0
        have := hr h0
        have := hone rfl
        dsimp only
        omega
      · have := hone h1
        dsimp only
        omega
    · have hp : 2 ≤ pending := Nat.le_of_not_lt hp
      by_cases hc : cur + 1 - stop = step
      · rw [nStep_skip_keep hsk hp hc]
        exact ⟨hrun, fun h1 => absurd h1 (Nat.ne_of_gt hp)⟩
      · rw [nStep_skip_emit hsk hp hc]
        exact ⟨hrun.flush (Nat.zero_lt_of_lt hp) _ _ _, fun h1 => absurd h1 Nat.zero_ne_one⟩
  · rw [if_neg hsk]
    by_cases hp : pending = 0
    · subst hp
      rw [nStep_want_zero hsk]
      exact ⟨hrun.start cur Int.one_ne_zero, fun _ => ⟨Int.one_pos, rfl⟩⟩
    · by_cases hc : 2 ≤ pending → cur - stop = step
      · rw [nStep_want_ext hsk hp hc]
        -- the run goes on: `cur` is its next term
        obtain rfl : stop + step = cur := by
          by_cases h2 : 2 ≤ pending
          · have := hc h2; omega
          · exact (hone (Nat.le_antisymm (Nat.le_of_not_lt h2) (Nat.pos_of_ne_zero hp))).2
        exact ⟨hrun.extend (Nat.pos_of_ne_zero hp), fun h1 => absurd (Nat.succ.inj h1) hp⟩
      · obtain ⟨hp2, hc⟩ := Decidable.not_imp_iff_and_not.mp hc
        rw [nStep_want_emit hsk hp2 hc]
        exact ⟨(hrun.flush (Nat.pos_of_ne_zero hp) start step stop).start cur Int.one_ne_zero,
          fun _ => ⟨Int.one_pos, rfl⟩⟩

theorem norm_loop (skip : Int → Bool) (a : Int) (N : Nat) :
    let st := (prog a 1 N).foldl (Blocks.nStep skip) ⟨[], 0, 0, 0, 0⟩
    let res := if st.pending > 0 then st.out ++ [mkRng st.start st.stop st.step] else st.out
    (∀ r ∈ res, WellSigned r) ∧ blocksEnum res = (prog a 1 N).filter (fun v => !skip v) := by
  intro st
  obtain ⟨hrun, _⟩ : NInv skip a N st :=
    foldl_prog_inv (NInv skip a) _ a 1
      ⟨⟨fun _ hr => absurd hr List.not_mem_nil, rfl, fun h => absurd h (Nat.lt_irrefl 0)⟩,
        fun h => absurd h Nat.zero_ne_one⟩
      (fun n σ h => by rw [Int.one_mul]; exact nInv_step skip a n σ h) N
  exact hrun.result

theorem normalized_spec (bl : Blocks) (inv : Bool) (hle : Blocks.min bl ≤ Blocks.max bl) :
    WF (Blocks.normalized bl inv) ∧
    blocksEnum (Blocks.normalized bl inv) =
      (up (Blocks.min bl) (Blocks.max bl) 1).filter
        (fun v => !(if inv = true then Blocks.contains bl v else !Blocks.contains bl v)) := by
  obtain ⟨N, hN⟩ := Int.eq_ofNat_of_zero_le (Int.sub_nonneg_of_le hle)
  have hmax : Blocks.max bl = Blocks.min bl + (N : Int) := by omega
  have hup : up (Blocks.min bl) (Blocks.max bl) 1 = prog (Blocks.min bl) 1 (N + 1) := by
    rw [hmax, up_one_add]
  obtain ⟨hws, hen⟩ := RngAux.mkRng_prog (Blocks.min bl) Int.one_ne_zero N (b := Blocks.max bl)
    (by rw [Int.one_mul]; exact hmax)
  obtain ⟨h1, h2⟩ := norm_loop (fun v => if inv = true then Blocks.contains bl v else !Blocks.contains bl v)
    (Blocks.min bl) (N + 1)
  unfold Blocks.normalized
  simp only
  rw [rng_iter _ hws, hen, hup]
  refine ⟨(wf_iff_nodup h1).mpr ?_, h2⟩
  rw [h2]
  exact asc_nodup _ ((pairwise_lt_prog _ Int.one_pos _).filter _)

/-- `normalized` only looks at membership and at min / max. -/
theorem normalized_congr (bl bl' : Blocks) (inv : Bool)
    (hc : ∀ v, Blocks.contains bl v = Blocks.contains bl' v)
    (hmin : Blocks.min bl = Blocks.min bl') (hmax : Blocks.max bl = Blocks.max bl') :
    Blocks.normalized bl inv = Blocks.normalized bl' inv := by
  have hf : Blocks.contains bl = Blocks.contains bl' := funext hc
  unfold Blocks.normalized
  rw [hmin, hmax, hf]

theorem mem_complement (L : List Int) (v : Int) :
    v ∈ complement L ↔ (listMin L ≤ v ∧ v ≤ listMax L ∧ v ∉ L) := by
  unfold complement
  rw [List.mem_filter, mem_up_one]
  simp [and_assoc]

theorem complement_sorted (L : List Int) : (complement L).Pairwise (· < ·) :=
  (up_one_asc _ _).filter _

theorem normalized_sorted (bl : Blocks) (h : WF bl) :
    WF (Blocks.normalized bl false) ∧
    blocksEnum (Blocks.normalized bl false) = sortedSet (blocksEnum bl) := by
  obtain ⟨hle, hb⟩ := blocks_min_max bl h
  obtain ⟨hwf, he⟩ := normalized_spec bl false hle
  refine ⟨hwf, ?_⟩
  rw [he]
  apply asc_ext _ _ ((up_one_asc _ _).filter _) (sortedSet_sorted _)
  intro v
  rw [mem_sortedSet, List.mem_filter, mem_up_one]
  simp only [Bool.false_eq_true, if_false, Bool.not_not]
  rw [blocks_contains bl h.1]
  exact ⟨fun hv => hv.2, fun hv => ⟨hb v hv, hv⟩⟩

theorem normalized_complement (bl : Blocks) (h : WF bl) :
    WF (Blocks.normalized bl true) ∧
    blocksEnum (Blocks.normalized bl true) = complement (blocksEnum bl) := by
  obtain ⟨hwf, he⟩ := normalized_spec bl true (blocks_min_max bl h).1
  refine ⟨hwf, ?_⟩
  rw [he, complement, ← blocks_min bl h, ← blocks_max bl h]
  apply List.filter_congr
  intro v _
  have hc : Blocks.contains bl v = (blocksEnum bl).contains v := by
    rw [Bool.eq_iff_iff, blocks_contains bl h.1, List.contains_iff_mem]
  rw [if_pos rfl, hc]

theorem normalized_wf (bl : Blocks) (h : WF bl) (inv : Bool) : WF (Blocks.normalized bl inv) :=
  (normalized_spec bl inv (blocks_min_max bl h).1).1

end Gfs.Proofs
