import GfsModel.Basic
import GfsModel.Compress
import GfsModel.Cpp
import GfsModel.Disk
import GfsModel.Expected
import GfsModel.ExpectedSrc
import GfsModel.FrameSet
import GfsModel.Handles
import GfsModel.ListSeqs
import GfsModel.Ops
import GfsModel.OpsAll
import GfsModel.OpsCli
import GfsModel.OpsDisk
import GfsModel.OpsFuzz
import GfsModel.OpsHandles
import GfsModel.OpsHist
import GfsModel.OpsHuge
import GfsModel.OpsList
import GfsModel.OpsSeq
import GfsModel.OpsX
import GfsModel.Pad
import GfsModel.Path
import GfsModel.Proto
import GfsModel.Ranges
import GfsModel.Rx
import GfsModel.SeqOps
import GfsModel.Seqinfo
import GfsModel.Seqls
import GfsModel.Sequence
import GfsModel.Shared
import GfsModel.Xorshift
