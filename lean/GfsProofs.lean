import GfsProofs.BlocksLemmas
import GfsProofs.ClosedLemmas
import GfsProofs.CompressLemmas
import GfsProofs.CppLemmas
import GfsProofs.CppScan
import GfsProofs.DigitLemmas
import GfsProofs.DiskLemmas
import GfsProofs.FindComplete
import GfsProofs.HandlesAux
import GfsProofs.HandlesLemmas
import GfsProofs.IndexLemmas
import GfsProofs.ListBasics
import GfsProofs.ListGroup
import GfsProofs.ListLemmas
import GfsProofs.ListOrder
import GfsProofs.ListScan
import GfsProofs.ListTok
import GfsProofs.ListViews
import GfsProofs.NormLemmas
import GfsProofs.NumLemmas
import GfsProofs.PadLemmas
import GfsProofs.PadRangeLemmas
import GfsProofs.ParseSem
import GfsProofs.ParseSyn
import GfsProofs.Prog
import GfsProofs.RngAux
import GfsProofs.RngLemmas
import GfsProofs.SeqLemmas
import GfsProofs.SeqinfoLemmas
import GfsProofs.SeqlsLemmas
import GfsProofs.SharedLemmas
import GfsProofs.SortLemmas
import GfsProofs.SplitLemmas
import GfsProofs.StrParse
import GfsProofs.WalkTerm
import GfsProofs.XorshiftLemmas
